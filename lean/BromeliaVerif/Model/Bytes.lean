/-! Big-endian fixed-width encodings over `List UInt8`. -/
namespace BV

abbrev Bytes := List UInt8

/-- big-endian, exactly `w` bytes, value taken mod 256^w -/
def be : (w : Nat) → Nat → Bytes
  | 0, _ => []
  | w+1, n => UInt8.ofNat (n / 256 ^ w % 256) :: be w (n % 256 ^ w)

def fromBE : Bytes → Nat
  | [] => 0
  | b :: bs => b.toNat * 256 ^ bs.length + fromBE bs

@[simp] theorem be_length (w n : Nat) : (be w n).length = w := by
  induction w generalizing n with
  | zero => rfl
  | succ w ih => simp [be, ih]

theorem fromBE_be (w n : Nat) (h : n < 256 ^ w) : fromBE (be w n) = n := by
  induction w generalizing n with
  | zero => simp [be, fromBE] at *; omega
  | succ w ih =>
    simp only [be, fromBE, be_length]
    have hpos : 0 < 256 ^ w := Nat.pow_pos (by decide)
    have h1 : n / 256 ^ w < 256 := by
      rw [Nat.div_lt_iff_lt_mul hpos]; rw [Nat.pow_succ] at h; omega
    rw [ih _ (Nat.mod_lt _ hpos)]
    have : (UInt8.ofNat (n / 256 ^ w % 256)).toNat = n / 256 ^ w := by
      simp [UInt8.toNat_ofNat']; omega
    rw [this]
    exact Nat.div_add_mod' n (256 ^ w)

theorem fromBE_lt (bs : Bytes) : fromBE bs < 256 ^ bs.length := by
  induction bs with
  | nil => simp [fromBE]
  | cons b bs ih =>
    simp only [fromBE, List.length_cons, Nat.pow_succ]
    have hb : b.toNat < 256 := b.toNat_lt
    have : b.toNat * 256 ^ bs.length ≤ 255 * 256 ^ bs.length := Nat.mul_le_mul_right _ (by omega)
    omega

/-- a field that ends in front of the offset is skipped as a whole -/
theorem drop_append_of_length_le {a r : Bytes} {i : Nat} (h : a.length ≤ i) : (a ++ r).drop i = r.drop (i - a.length) := by
  rw [List.drop_append, List.drop_of_length_le h, List.nil_append]
end BV
