import BromeliaVerif.Model.Dict
import BromeliaVerif.Model.Msg
/-! Decoders: `DiameterAVP.load`, `DiameterHeader.load`, `DiameterMessage.load` (bromelia/base.py) and
the re-construction of dictionary classes from wire data (`cls(avp.data)`, bromelia/types.py).

Reader style: `readN n s` is Python's `s[i:i+n]` followed by the `len(..) != n` check (for the flag
byte: the `IndexError` that the code turns into `AVPParsingError`). All of them end in the same
error, so the observable behaviour is the same as the index-based code. -/
namespace BV.Parse
open BV BV.Dict

inductive Err
  | parsing                 -- AVPParsingError
  | lib (name : String)     -- another class of bromelia.exceptions
  | std (name : String)     -- a foreign exception (a defect for C03)
  | unmodelled              -- the model does not cover this input (reported, not compared)
deriving Repr, DecidableEq, Inhabited

/-- exact-width reader -/
def readN (n : Nat) (s : Bytes) : Option (Bytes × Bytes) :=
  if n ≤ s.length then some (s.take n, s.drop n) else none

/-- one iteration of the `while` body of `DiameterAVP.load`, before class dispatch:
    the raw AVP and the rest of the stream (padding skipped, clamped at the end) -/
def parseOne (s : Bytes) : Except Err (Avp × Bytes) :=
  match readN 4 s with
  | none => .error .parsing
  | some (code, s1) =>
  match readN 1 s1 with
  | none => .error .parsing
  | some (fl, s2) =>
  match readN 3 s2 with
  | none => .error .parsing
  | some (len, s3) =>
    let boundary := fromBE len
    let flags := fromBE fl
    if vbit flags then
      match readN 4 s3 with
      | none => .error .parsing
      | some (vend, s4) =>
        if boundary < 12 then .error .parsing else
        match readN (boundary - 12) s4 with
        | none => .error .parsing
        | some (data, s5) =>
          .ok ({ code := fromBE code, flags, vendor := some (fromBE vend), data }, s5.drop (padLen boundary))
    else
      if boundary < 8 then .error .parsing else
      match readN (boundary - 8) s3 with
      | none => .error .parsing
      | some (data, s5) =>
        .ok ({ code := fromBE code, flags, vendor := none, data }, s5.drop (padLen boundary))

theorem readN_some {n : Nat} {s a r : Bytes} (h : readN n s = some (a, r)) :
    a.length = n ∧ r.length + n = s.length := by
  unfold readN at h
  split at h
  · cases h; simp only [List.length_take, List.length_drop]; omega
  · cases h

theorem readN_append {n : Nat} {a : Bytes} (r : Bytes) (h : a.length = n) : readN n (a ++ r) = some (a, r) := by
  subst h; simp [readN]

/-- every failing exit is `AVPParsingError`; a successful iteration has taken the data and the rest
    from disjoint parts of the input, after at least 8 header bytes -/
theorem parseOne_spec (s : Bytes) :
    match parseOne s with
    | .error e => e = .parsing
    | .ok (a, rest) => rest.length + a.data.length + 8 ≤ s.length := by
  fun_cases parseOne s
  case case7 c s1 h1 f s2 h2 l s3 h3 _ _ _ v s4 h4 _ d s5 h5 =>
    have := readN_some h1; have := readN_some h2; have := readN_some h3
    have := readN_some h4; have := readN_some h5
    simp only [List.length_drop]; omega
  case case10 c s1 h1 f s2 h2 l s3 h3 _ _ _ _ d s5 h5 =>
    have := readN_some h1; have := readN_some h2; have := readN_some h3; have := readN_some h5
    simp only [List.length_drop]; omega
  all_goals rfl

theorem parseOne_error {s : Bytes} {e : Err} (h : parseOne s = .error e) : e = .parsing := by
  simpa only [h] using parseOne_spec s

/-- progress and size facts of one successful iteration: at least 8 bytes are consumed, the data and
    the rest are disjoint parts of the input -/
theorem parseOne_ok {s : Bytes} {a : Avp} {rest : Bytes} (h : parseOne s = .ok (a, rest)) :
    rest.length + 8 ≤ s.length ∧ a.data.length + 8 ≤ s.length ∧ rest.length + a.data.length + 8 ≤ s.length := by
  have := parseOne_spec s
  simp only [h] at this
  omega

/-- a decoded AVP as the application sees it: the object state, the dictionary class it was
    materialised as (`none` = generic `DiameterAVP`), and — for Grouped classes — its members -/
inductive LAvp where
  | mk (avp : Avp) (cls : Option String) (kids : List LAvp)
deriving Repr, Inhabited

def LAvp.avp : LAvp → Avp | .mk a _ _ => a
def LAvp.cls : LAvp → Option String | .mk _ c _ => c
def LAvp.kids : LAvp → List LAvp | .mk _ _ k => k

/-- `cls(data)` for the non-Grouped kinds: does the constructor accept these wire bytes? -/
def acceptLeaf (k : Kind) (values : List Nat) (d : Bytes) : Except Err Unit :=
  match k with
  | .octetString | .utf8String | .diameterIdentity | .sessionId | .tbcd | .eapPayload | .framedIp => .ok ()
  | .integer32 | .unsigned32 | .time => if d.length = 4 then .ok () else .error (.lib "DataTypeError")
  | .unsigned64 => if d.length = 8 then .ok () else .error (.lib "DataTypeError")
  | .enumerated => if d.length = 4 ∧ values.contains (fromBE d) then .ok () else .error (.lib "AVPAttributeValueError")
  | .address => if Address.fromBytesOk d then .ok () else .error (.lib "DataTypeError")
  | .diameterURI => if Uri.acceptsBytes d == some true then .ok () else .error (.lib "DataTypeError")
  | .grouped => .error .unmodelled
  | .unmodelled => .error .unmodelled

/-- dispatch rule of `DiameterAVP.load` (after the vendor-presence repair): the class filed under
    (Vendor-ID or 0, code), provided the class has a vendor exactly when the wire AVP has one -/
def dispatch (dict : List Entry) (raw : Avp) : Option Entry :=
  match lookup dict (raw.vendor.getD 0) raw.code with
  | some e => if e.vendor.isSome == raw.vendor.isSome then some e else none
  | none => none

/-- `dispatch` is `lookup` under (Vendor-ID or 0, code), kept when class and AVP agree on having a vendor -/
theorem dispatch_eq_some {d : List Entry} {raw : Avp} {e : Entry} :
    dispatch d raw = some e ↔
      lookup d (raw.vendor.getD 0) raw.code = some e ∧ e.vendor.isSome = raw.vendor.isSome := by
  unfold dispatch
  split <;> simp_all
  exact ⟨by rintro ⟨h, rfl⟩; exact ⟨rfl, h⟩, by rintro ⟨rfl, h⟩; exact ⟨h, rfl⟩⟩

/-- re-construction of one raw AVP by its dictionary class (`cls(avp.data)`); `kids ()` is the result
    of re-parsing the data, consulted for Grouped classes only -/
def materialise (dict : List Entry) (raw : Avp) (kids : Unit → Except Err (List LAvp)) : Except Err LAvp :=
  match dispatch dict raw with
  | none => .ok (.mk raw none [])
  | some e =>
    if e.kind = .grouped then
      match kids () with
      | .error er => .error er
      | .ok ks =>
        if e.mandatory.all (fun m => ks.any (fun k => k.avp.code == m.2)) then
          .ok (.mk { code := e.code, flags := e.flags, vendor := e.vendor,
                     data := ks.flatMap (fun k => k.avp.dump) } (some e.name) ks)
        else .error (.lib "AVPAttributeValueError")
    else
      match acceptLeaf e.kind e.values raw.data with
      | .error er => .error er
      | .ok () => .ok (.mk { code := e.code, flags := e.flags, vendor := e.vendor, data := raw.data } (some e.name) [])

/-- `DiameterAVP.load`: parse, dispatch and re-construct AVP by AVP, in stream order (so the first
    failing AVP determines the error); a Grouped class re-parses its data and *rebuilds* it from the
    re-dumped members. Well-founded on the length of the stream: every iteration consumes at least 8
    bytes (`parseOne_ok`), and the data of an AVP is shorter than the stream it came from. -/
def loadAvps (dict : List Entry) (s : Bytes) : Except Err (List LAvp) :=
  if h0 : s = [] then .ok [] else
  match h : parseOne s with
  | .error e => .error e
  | .ok (raw, rest) =>
    match materialise dict raw (fun _ => loadAvps dict raw.data) with
    | .error er => .error er
    | .ok a =>
      match loadAvps dict rest with
      | .error er => .error er
      | .ok more => .ok (a :: more)
termination_by s.length
decreasing_by
  all_goals
    have := parseOne_ok h
    have : 0 < s.length := List.length_pos_iff.mpr h0
    omega

/-- `DiameterHeader.load` on exactly 20 bytes -/
def parseHeader (s : Bytes) : Header :=
  { version := fromBE (s.take 1), length := fromBE ((s.drop 1).take 3), flags := fromBE ((s.drop 4).take 1),
    cmd := some (fromBE ((s.drop 5).take 3)), app := some (fromBE ((s.drop 8).take 4)),
    hbh := some (fromBE ((s.drop 12).take 4)), e2e := some (fromBE ((s.drop 16).take 4)) }

structure LMsg where
  hdr : Header
  avps : List LAvp
deriving Repr, Inhabited

/-- `DiameterMessage.load` (after the length-guard repair): split by the Message Length field, which
    must be at least 20; each iteration consumes ≥ 20 bytes, so the loop terminates -/
def loadMsgs (dict : List Entry) (s : Bytes) : Except Err (List LMsg) :=
  if h0 : s = [] then .ok [] else
  if s.length < 20 then .error .parsing else
  let hdr := parseHeader (s.take 20)
  if hlen : hdr.length < 20 then .error .parsing else
  match loadAvps dict ((s.take hdr.length).drop 20) with
  | .error e => .error e
  | .ok avps =>
    match loadMsgs dict (s.drop hdr.length) with
    | .error e => .error e
    | .ok more => .ok ({ hdr, avps } :: more)
termination_by s.length
decreasing_by
  have : 0 < s.length := List.length_pos_iff.mpr h0
  have h20 : 20 ≤ (parseHeader (s.take 20)).length := Nat.le_of_not_lt hlen
  simp only [List.length_drop]; omega

/-- re-serialisation of a decoded message: the header as decoded (`loaded=True` keeps the wire
    length) followed by the dumps of the materialised AVPs -/
def LMsg.dump (m : LMsg) : Bytes := m.hdr.dump ++ m.avps.flatMap (fun a => a.avp.dump)

end BV.Parse
