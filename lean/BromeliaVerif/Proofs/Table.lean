import BromeliaVerif.Model.Parse
/-! Behind the facts about the regenerated tables (`Properties/C10`): forms of a table fact that the
kernel evaluates without comparing every row with every other, each with the lemma that it implies
the fact as stated, and what follows from an evaluated fact by argument. The lemmas are about
arbitrary lists. -/

namespace BV.Table

variable {α β : Type}

/-- the part of `l` from the first partner of `a` on -/
def seek (p : α → β → Bool) (a : α) (l : List β) : List β := l.dropWhile fun b => !p a b

/-- `B.any (p a)` for every `a` of `A`, each partner looked for from where the previous one was
    found and only then in all of `B`: one pass when `A` names its partners in the order of `B`
    (a table and its reference snapshot), never more than two scans of `B` per row -/
def allAny (p : α → β → Bool) (B : List β) : List α → List β → Bool
  | [], _ => true
  | a :: as, cur =>
    match seek p a cur, seek p a B with
    | b :: rest, _ | [], b :: rest => allAny p B as (b :: rest)
    | [], [] => false

theorem seek_cons {p : α → β → Bool} {a : α} {l : List β} {b : β} {rest : List β}
    (h : seek p a l = b :: rest) : p a b = true ∧ ∀ x ∈ b :: rest, x ∈ l := by
  refine ⟨?_, fun x hx => (List.dropWhile_suffix _).subset (h ▸ hx)⟩
  have := List.head?_dropWhile_not (fun b => !p a b) l
  rw [← seek, h] at this
  simpa using this

theorem allAny_sound_from (p : α → β → Bool) (B : List β) : ∀ (A : List α) (cur : List β),
    (∀ b ∈ cur, b ∈ B) → allAny p B A cur = true → A.all (fun a => B.any (p a)) = true
  | [], _, _, _ => rfl
  | a :: as, cur, hcur, h => by
    -- wherever the partner `b` was found, it is in `B`, and so is the rest of the list it heads
    have step : ∀ l b rest, (∀ x ∈ l, x ∈ B) → seek p a l = b :: rest → allAny p B as (b :: rest) = true →
        (a :: as).all (fun a => B.any (p a)) = true := fun l b rest hl hs h => by
      obtain ⟨hp, hsub⟩ := seek_cons hs
      rw [List.all_cons, allAny_sound_from p B as _ (fun x hx => hl x (hsub x hx)) h, Bool.and_true]
      exact List.any_eq_true.mpr ⟨b, hl b (hsub b (List.mem_cons_self ..)), hp⟩
    unfold allAny at h
    split at h
    · exact step cur _ _ hcur ‹_› h
    · exact step B _ _ (fun _ hx => hx) ‹_› h
    · cases h

theorem allAny_sound {p : α → β → Bool} {A : List α} {B : List β} (h : allAny p B A B = true) :
    A.all (fun a => B.any (p a)) = true :=
  allAny_sound_from p B A B (fun _ hb => hb) h

/-- rows exempted by `q` may be exempted inside the search -/
theorem all_or_any {A : List α} {B : List β} {q : α → Bool} {p : α → β → Bool}
    (h : A.all (fun a => B.any (fun b => q a || p a b)) = true) : A.all (fun a => q a || B.any (p a)) = true := by
  simp only [List.all_eq_true, List.any_eq_true, Bool.or_eq_true] at h ⊢
  intro a ha
  obtain ⟨b, hb, h'⟩ := h a ha
  exact h'.imp id fun h => ⟨b, hb, h⟩

end BV.Table

namespace BV.Dict
open BV.Parse

/-- `d.all fun a => d.all fun b => a.key != b.key || a.sameDef b`, the rows compared only within the
    classes of their code modulo `m`: rows with one key have one code -/
def functionalBy (m : Nat) (d : List Entry) : Bool :=
  (List.range m).all fun i =>
    let c := d.filter fun e => e.code % m == i
    c.all fun a => c.all fun b => a.key != b.key || a.sameDef b

theorem functional_of_functionalBy {m : Nat} (hm : 0 < m) {d : List Entry} (h : functionalBy m d = true) :
    d.all (fun a => d.all (fun b => a.key != b.key || a.sameDef b)) = true := by
  simp only [functionalBy, List.all_eq_true, List.mem_range, List.mem_filter, beq_iff_eq, Bool.or_eq_true,
    bne_iff_ne, ne_eq] at h ⊢
  intro a ha b hb
  by_cases hk : a.key = b.key
  · have hc : b.code = a.code := (congrArg Prod.snd hk).symm
    exact h (a.code % m) (Nat.mod_lt _ hm) a ⟨ha, rfl⟩ b ⟨hb, by rw [hc]⟩
  · exact .inl hk

/-- in a table that is a function of the key, every row's own (vendor, code) is dispatched to a row
    with the same definition -/
theorem dispatch_of_functional (d : List Entry)
    (h : d.all (fun a => d.all (fun b => a.key != b.key || a.sameDef b)) = true) :
    d.all (fun e =>
      match dispatch d { code := e.code, flags := e.flags, vendor := e.vendor, data := [] } with
      | some e' => e'.sameDef e
      | none => false) = true := by
  simp only [List.all_eq_true, Bool.or_eq_true, bne_iff_ne, ne_eq] at h ⊢
  intro e he
  -- `lookup` finds a row filed under the key of `e`; by `h` it has the definition of `e`, so its vendor
  obtain ⟨e', hl⟩ : ∃ e', lookup d e.key.1 e.key.2 = some e' :=
    Option.isSome_iff_exists.mp (List.find?_isSome.mpr ⟨e, List.mem_reverse.mpr he, beq_self_eq_true _⟩)
  have hs : e'.sameDef e = true :=
    (h e' (List.mem_reverse.mp (List.mem_of_find?_eq_some hl)) e he).resolve_left
      fun hne => hne (by simpa using List.find?_some hl)
  have hv : e'.vendor = e.vendor := by
    simp only [Entry.sameDef, Bool.and_eq_true, beq_iff_eq] at hs
    exact hs.1.1.1.1.2
  rw [dispatch_eq_some.mpr ⟨hl, by rw [hv]⟩]
  exact hs

end BV.Dict
