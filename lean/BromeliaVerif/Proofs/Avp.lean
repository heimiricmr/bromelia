import BromeliaVerif.Model.Msg
import BromeliaVerif.Spec.Rfc6733
namespace BV
open BV.Spec

theorem pyPadding_eq (a : Avp) : a.pyPadding = List.replicate (padLen a.data.length) 0 := by
  unfold Avp.pyPadding padLen
  split
  · rename_i h; rw [List.isEmpty_iff.mp h]; rfl
  · split
    · congr 1; omega
    · rw [show (4 - a.data.length % 4) % 4 = 0 by omega]; rfl

theorem hdrLen_eq (a : Avp) : a.hdrLen = (match a.vendor with | some _ => 12 | none => 8) := by
  unfold Avp.hdrLen; cases a.vendor <;> rfl

/-- the serialiser as coded equals the RFC reference encoder on the same fields -/
theorem Avp.dump_eq_encAvp (a : Avp) : a.dump = encAvp a.code a.flags a.vendor a.data := by
  have : (if a.data.isEmpty then [] else a.data) = a.data := by cases a.data <;> rfl
  unfold Avp.dump encAvp Avp.len
  rw [pyPadding_eq, this, hdrLen_eq]
  rfl

/-- a header with every field present is serialised as the RFC reference header -/
theorem Header.dump_eq_encHeader (hf : HeaderFields) (n : Nat) :
    Header.dump ⟨hf.version, n, hf.flags, some hf.cmd, some hf.app, some hf.hbh, some hf.e2e⟩ = encHeader hf n := rfl

theorem Spec.encHeader_length (h : HeaderFields) (n : Nat) : (encHeader h n).length = 20 := by
  simp [encHeader]

theorem Avp.dump_length (a : Avp) : a.dump.length = a.hdrLen + a.data.length + padLen a.data.length := by
  rw [Avp.dump_eq_encAvp, hdrLen_eq]; unfold encAvp
  cases a.vendor <;> simp <;> omega

theorem Avp.paddedLen_eq (a : Avp) : a.paddedLen = a.dump.length := by
  rw [Avp.dump_length, Avp.paddedLen, Avp.len, pyPadding_eq, List.length_replicate]

theorem padded_mod4 (n : Nat) : (n + padLen n) % 4 = 0 := by unfold padLen; omega

theorem padLen_add (k n : Nat) (h : k % 4 = 0) : padLen (k + n) = padLen n := by unfold padLen; omega

theorem Avp.dump_length_mod4 (a : Avp) : a.dump.length % 4 = 0 := by
  have := padded_mod4 a.data.length
  rw [Avp.dump_length]; unfold Avp.hdrLen; split <;> omega

theorem flatMap_dump_length (as : List Avp) : (as.flatMap Avp.dump).length = (as.map Avp.paddedLen).sum := by
  induction as with
  | nil => rfl
  | cons a as ih => simp [List.flatMap_cons, ih, Avp.paddedLen_eq]

theorem flatMap_dump_mod4 (as : List Avp) : (as.flatMap Avp.dump).length % 4 = 0 := by
  induction as with
  | nil => rfl
  | cons a as ih =>
    simp only [List.flatMap_cons, List.length_append]
    have := Avp.dump_length_mod4 a; omega

/-- `append` to any message under construction (not `load`ed): the AVPs are added in order, the
    Message Length grows by their dumped sizes, nothing else in the header changes -/
theorem Msg.foldl_append (as : List Avp) (m0 : Msg) (h0 : m0.loaded = false) :
    (as.foldl Msg.append m0).avps = m0.avps ++ as ∧
    (as.foldl Msg.append m0).hdr = { m0.hdr with length := m0.hdr.length + (as.flatMap Avp.dump).length } := by
  induction as generalizing m0 with
  | nil => simp
  | cons a as ih =>
    obtain ⟨h1, h2⟩ := ih (m0.append a) h0
    simp only [List.foldl_cons, h1, h2]
    simp [Msg.append, h0, Avp.paddedLen_eq, List.flatMap_cons, Nat.add_assoc]

end BV
