import BromeliaVerif.Model.PsmPrims
/-! A verified normaliser for translated state-machine programs: the comparison `code = reference` of
`Properties/C06Gen.lean` is made on normal forms, so that edits which only regroup statements, instantiate a helper's boolean
flags, drop an `if` whose branches are equal (a log line) or double a negation do not change the compared term.
Static (independent of /repo). -/
namespace BV.PsmT

def Cond.norm : Cond → Cond
  | .not c =>
    match c.norm with
    | .flag b => .flag (!b)
    | .not d => d
    | c' => .not c'
  | .and a b =>
    match a.norm, b.norm with
    | .flag true, b' => b'
    | .flag false, _ => .flag false
    | a', .flag true => a'
    | a', b' => .and a' b'
  | .or a b =>
    match a.norm, b.norm with
    | .flag false, b' => b'
    | .flag true, _ => .flag true
    | a', .flag false => a'
    | a', b' => .or a' b'
  | c => c

theorem Cond.norm_eval (V : Verd) (c : Cond) (ps : PS) : c.norm.eval V ps = c.eval V ps := by
  fun_induction Cond.norm c <;> simp_all [Cond.eval]

/-- sequential composition of two normalised programs, right-nested, without `skip` -/
def Prog.app : Prog → Prog → Prog
  | .skip, q => q
  | .seq a b, q => .seq a (Prog.app b q)
  | p, .skip => p
  | p, q => .seq p q

theorem Prog.app_exec (V : Verd) (p q : Prog) (ps : PS) : (Prog.app p q).exec V ps = q.exec V (p.exec V ps) := by
  fun_induction Prog.app p q generalizing ps <;> simp_all [Prog.exec]

def Prog.norm : Prog → Prog
  | .skip => .skip
  | .prim p => .prim p
  | .seq a b => Prog.app a.norm b.norm
  | .ite c a b =>
    match c.norm with
    | .flag true => a.norm
    | .flag false => b.norm
    | c' => if a.norm = b.norm then a.norm else .ite c' a.norm b.norm

theorem Prog.norm_exec (V : Verd) (p : Prog) (ps : PS) : p.norm.exec V ps = p.exec V ps := by
  induction p generalizing ps with
  | skip | prim => rfl
  | seq a b iha ihb => simp [Prog.norm, Prog.exec, Prog.app_exec, iha, ihb]
  | ite c a b iha ihb =>
    simp only [Prog.norm, Prog.exec, ← Cond.norm_eval V c]
    split
    · simp_all [Cond.eval]
    · simp_all [Cond.eval]
    · split <;> simp_all [Prog.exec]

/-- programs with the same normal form run the same -/
theorem Prog.exec_congr_norm (V : Verd) (p q : Prog) (h : p.norm = q.norm) (ps : PS) : p.exec V ps = q.exec V ps := by
  rw [← Prog.norm_exec V p, ← Prog.norm_exec V q, h]

end BV.PsmT
