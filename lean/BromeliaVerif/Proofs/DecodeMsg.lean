import BromeliaVerif.Proofs.Decode
namespace BV.Spec
open BV BV.Dict BV.Parse

mutual
  /-- the object state of the decoded AVP is the raw AVP of the normalised content -/
  theorem obs_avp (dict : List Entry) : ∀ t : Content, (obs dict t).avp = root (norm dict t)
    | .leaf c f v d => by
      simp only [obs, norm]
      cases hd : dispatch dict (key c v) with
      | none => rfl
      | some e =>
        obtain ⟨hc, hv⟩ : e.code = c ∧ e.vendor = v := (dispatch_some hd).2
        simp [LAvp.avp, root, hc, hv]
    | .grouped c f v ks => by
      simp only [obs, norm]
      cases hd : dispatch dict (key c v) with
      | none => rfl
      | some e =>
        obtain ⟨hc, hv⟩ : e.code = c ∧ e.vendor = v := (dispatch_some hd).2
        by_cases hk : e.kind = .grouped
        · simp only [hk, ↓reduceIte, obsList_dump dict ks]
          simp [LAvp.avp, root, hc, hv]
        · simp [hk, LAvp.avp, root, hc, hv]
  theorem obsList_dump (dict : List Entry) : ∀ ts : List Content,
      (obsList dict ts).flatMap (fun k => k.avp.dump) = encList (normList dict ts)
    | [] => rfl
    | t :: ts => by
      simp [obsList, normList, encList, List.flatMap_cons, obs_avp dict t, ← enc_eq_root_dump, obsList_dump dict ts]
end

/-- re-serialising the decoded object gives the encoding of the normalised content -/
theorem obs_dump (dict : List Entry) : ∀ t : Content, (obs dict t).avp.dump = enc (norm dict t) := fun t => by
  rw [obs_avp, enc_eq_root_dump]

mutual
  /-- under the guard (every known AVP carries its default flags) normalisation is the identity -/
  theorem norm_faithful (dict : List Entry) : ∀ t : Content, faithful dict t = true → norm dict t = t
    | .leaf c f v d, h => by
      simp only [faithful] at h
      simp only [norm]
      cases hd : dispatch dict (key c v) with
      | none => rfl
      | some e => rw [hd] at h; simp only [beq_iff_eq] at h; simp [h]
    | .grouped c f v ks, h => by
      simp only [faithful] at h
      simp only [norm]
      cases hd : dispatch dict (key c v) with
      | none => rfl
      | some e =>
        rw [hd] at h
        simp only [Bool.and_eq_true, beq_iff_eq] at h
        by_cases hk : e.kind = .grouped
        · simp only [hk, ↓reduceIte] at h ⊢
          rw [normList_faithful dict ks h.2, h.1]
        · simp only [hk, ↓reduceIte]; rw [h.1]
  theorem normList_faithful (dict : List Entry) : ∀ ts : List Content, faithfulList dict ts = true → normList dict ts = ts
    | [], _ => rfl
    | t :: ts, h => by
      simp only [faithfulList, Bool.and_eq_true] at h
      simp only [normList, norm_faithful dict t h.1, normList_faithful dict ts h.2]
end

/-! ### messages -/

structure WireMsg where
  hf : HeaderFields
  body : List Content
deriving Inhabited

def WireMsg.enc (m : WireMsg) : Bytes := encMsg m.hf m.body

def goodMsg (dict : List Entry) (m : WireMsg) : Prop :=
  m.hf.version < 256 ∧ m.hf.flags < 256 ∧ m.hf.cmd < 2 ^ 24 ∧ m.hf.app < 2 ^ 32 ∧ m.hf.hbh < 2 ^ 32 ∧ m.hf.e2e < 2 ^ 32 ∧
  goodList dict m.body = true ∧ 20 + (encList m.body).length < 2 ^ 24

/-- the decoded message object: header fields as on the wire, Message Length = size, AVPs observed -/
def obsMsg (dict : List Entry) (m : WireMsg) : LMsg :=
  { hdr := { version := m.hf.version, length := 20 + (encList m.body).length, flags := m.hf.flags,
             cmd := some m.hf.cmd, app := some m.hf.app, hbh := some m.hf.hbh, e2e := some m.hf.e2e },
    avps := obsList dict m.body }

theorem parseHeader_enc (h : HeaderFields) (n : Nat)
    (h1 : h.version < 256) (h2 : h.flags < 256) (h3 : h.cmd < 2 ^ 24) (h4 : h.app < 2 ^ 32)
    (h5 : h.hbh < 2 ^ 32) (h6 : h.e2e < 2 ^ 32) (hn : n < 2 ^ 24) :
    parseHeader (encHeader h n) =
      { version := h.version, length := n, flags := h.flags, cmd := some h.cmd, app := some h.app,
        hbh := some h.hbh, e2e := some h.e2e } := by
  simp only [Nat.reducePow] at h3 h4 h5 h6 hn
  -- each field: the fields in front of its offset are skipped, it is taken whole, and `fromBE` inverts `be`
  simp [parseHeader, encHeader, drop_append_of_length_le, List.take_left', List.take_of_length_le, fromBE_be, *]

/-- decoding one encoded message followed by any rest -/
theorem loadMsgs_enc_one (dict : List Entry) (m : WireMsg) (rest : Bytes) (hg : goodMsg dict m) :
    loadMsgs dict (m.enc ++ rest) = (loadMsgs dict rest).map (obsMsg dict m :: ·) := by
  obtain ⟨h1, h2, h3, h4, h5, h6, hb, hn⟩ := hg
  have hw : m.enc = encHeader m.hf (20 + (encList m.body).length) ++ encList m.body := rfl
  have hH := encHeader_length m.hf (20 + (encList m.body).length)
  have hlen : m.enc.length = 20 + (encList m.body).length := by rw [hw, List.length_append, hH]
  have hne : m.enc ++ rest ≠ [] := by
    intro h; have := congrArg List.length h; rw [List.length_append, hlen] at this; simp at this
  have htake : (m.enc ++ rest).take 20 = encHeader m.hf (20 + (encList m.body).length) := by
    rw [hw, List.append_assoc, List.take_left' hH]
  rw [loadMsgs_eq, if_neg hne, htake, parseHeader_enc m.hf _ h1 h2 h3 h4 h5 h6 hn]
  simp only
  rw [if_neg (by rw [List.length_append, hlen]; omega), List.take_left' hlen, List.drop_left' hlen, hw,
    List.drop_left' hH, load_enc_list dict m.body hb]
  rfl

/-- every stream of concatenated good messages decodes to exactly one object per message, in order -/
theorem loadMsgs_enc (dict : List Entry) : ∀ ms : List WireMsg, (∀ m ∈ ms, goodMsg dict m) →
    loadMsgs dict (ms.flatMap WireMsg.enc) = .ok (ms.map (obsMsg dict))
  | [], _ => loadMsgs_nil dict
  | m :: ms, h => by
    simp only [List.flatMap_cons, List.map_cons]
    rw [loadMsgs_enc_one dict m _ (h m (by simp)), loadMsgs_enc dict ms (fun x hx => h x (by simp [hx]))]
    rfl

/-- re-serialisation of a decoded message = the original header followed by the encoding of the
    flag-normalised content -/
theorem obsMsg_redump (dict : List Entry) (m : WireMsg) :
    (obsMsg dict m).dump = encHeader m.hf (20 + (encList m.body).length) ++ encList (normList dict m.body) := by
  rw [LMsg.dump, obsMsg, obsList_dump, Header.dump_eq_encHeader]

theorem obsMsg_dump (dict : List Entry) (m : WireMsg) :
    (obsMsg dict m).dump = encMsg m.hf (normList dict m.body) ∨
    (obsMsg dict m).dump = encHeader m.hf (20 + (encList m.body).length) ++ encList (normList dict m.body) :=
  .inr (obsMsg_redump dict m)

end BV.Spec
