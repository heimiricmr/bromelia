import BromeliaVerif.Model.Parse
import BromeliaVerif.Proofs.Avp
namespace BV.Parse
open BV BV.Dict BV.Spec

/-- one AVP: parsing its dump (followed by anything) gives back exactly its fields and the rest -/
theorem parseOne_dump (a : Avp) (rest : Bytes) (h : a.WF) :
    parseOne (a.dump ++ rest) = .ok (a, rest) := by
  obtain ⟨hc, hf, hv, hvend, hlen⟩ := h
  rw [Avp.dump_eq_encAvp]
  rcases a with ⟨code, flags, vendor, data⟩
  -- every `readN` takes one field off the front and `fromBE` inverts `be` within the field's width
  cases vendor <;> simp [Avp.len, Avp.hdrLen] at hc hf hv hvend hlen <;>
    simp [encAvp, parseOne, readN_append, fromBE_be, padLen_add, *]

/-- combine the result for the first AVP with the result for the rest of the stream -/
def consRes (a : LAvp) (r : Except Err (List LAvp)) : Except Err (List LAvp) :=
  match r with
  | .error e => .error e
  | .ok more => .ok (a :: more)

/-! The recursion equations of the two decoders, without the termination evidence that their
definitions carry (definitions by well-founded recursion do not unfold by `rfl`). -/

theorem loadAvps_eq (dict : List Entry) (s : Bytes) :
    loadAvps dict s =
      if s = [] then .ok [] else
      match parseOne s with
      | .error e => .error e
      | .ok (raw, rest) =>
        match materialise dict raw (fun _ => loadAvps dict raw.data) with
        | .error er => .error er
        | .ok a => consRes a (loadAvps dict rest) := by
  fun_cases loadAvps dict s <;> simp [*, consRes]

theorem loadMsgs_eq (dict : List Entry) (s : Bytes) :
    loadMsgs dict s =
      if s = [] then .ok [] else
      if s.length < 20 ∨ (parseHeader (s.take 20)).length < 20 then .error .parsing else
      match loadAvps dict ((s.take (parseHeader (s.take 20)).length).drop 20) with
      | .error e => .error e
      | .ok avps => (loadMsgs dict (s.drop (parseHeader (s.take 20)).length)).map (⟨parseHeader (s.take 20), avps⟩ :: ·) := by
  fun_cases loadMsgs dict s <;> simp +zetaDelta [*, Except.map]

@[simp] theorem loadAvps_nil (dict : List Entry) : loadAvps dict [] = .ok [] := by rw [loadAvps_eq]; rfl

@[simp] theorem loadMsgs_nil (dict : List Entry) : loadMsgs dict [] = .ok [] := by rw [loadMsgs_eq]; rfl

/-- unfolding at a stream whose first AVP parses -/
theorem loadAvps_step (dict : List Entry) {s : Bytes} {raw : Avp} {rest : Bytes} (hp : parseOne s = .ok (raw, rest)) :
    loadAvps dict s =
      match materialise dict raw (fun _ => loadAvps dict raw.data) with
      | .error er => .error er
      | .ok a => consRes a (loadAvps dict rest) := by
  have hs : s ≠ [] := by rintro rfl; cases hp
  rw [loadAvps_eq, if_neg hs, hp]

end BV.Parse
