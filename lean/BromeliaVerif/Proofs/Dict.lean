import BromeliaVerif.Model.Dict
import BromeliaVerif.Proofs.Tbcd
namespace BV.Dict
open BV BV.Spec

/-- the value's RFC encoding, with Python's `bool` counted as the integers 0 / 1 -/
def dataOf' (k : Kind) (vs : List Nat) : PyVal → Option Bytes
  | .bool b => if k = .unsigned32 ∨ k = .unsigned64 then dataOf k vs (.int (if b then 1 else 0)) else none
  | v => dataOf k vs v

/-- what the harness / CPython guarantee about structured values: an address literal parsed by
    `ipaddress` is IPv4 with 4 packed bytes or IPv6 with 16 -/
def PyVal.valid : PyVal → Prop
  | .ip f p => (f = 4 ∧ p.length = 4) ∨ (f = 6 ∧ p.length = 16)
  | _ => True

/-- a guarded constructor accepts exactly when its guard holds -/
theorem ite_eq_ok {c : Prop} [Decidable c] {x d : Bytes} {r : Built} (hr : r ≠ .ok d) :
    (if c then .ok x else r) = .ok d ↔ c ∧ x = d := by
  split <;> simp [*]

theorem address_mk_v4 (p : Bytes) : Address.mk .v4 p = be 2 1 ++ p := rfl
theorem address_mk_v6 (p : Bytes) : Address.mk .v6 p = be 2 2 ++ p := rfl

theorem fromBytesOk_iff (b : Bytes) :
    Address.fromBytesOk b = true ↔ (b.take 2 == be 2 1 ∧ b.length = 6) ∨ (b.take 2 == be 2 2 ∧ b.length = 18) := by
  have e1 : be 2 1 = [0, 1] := rfl
  have e2 : be 2 2 = [0, 2] := rfl
  rcases b with _ | ⟨x, _ | ⟨y, rest⟩⟩ <;> simp [Address.fromBytesOk, e1, e2]

theorem timeData_civil (y m d hh mm ss : Nat) :
    Time.timeData (Ntp.days y m d) (hh * 3600 + mm * 60 + ss) =
      if Ntp.seconds y m d hh mm ss < 2 ^ 32 then some (be 4 (Ntp.seconds y m d hh mm ss)) else none := by
  simp only [Time.timeData, Ntp.seconds, Nat.add_assoc]

theorem construct_time_datetime (vs : List Nat) (y m d hh mm ss : Nat) :
    construct .time vs (.datetime y m d hh mm ss) =
      if Ntp.seconds y m d hh mm ss < 2 ^ 32 then .ok (be 4 (Ntp.seconds y m d hh mm ss))
      else .err (.std "error") := by
  -- `rw`, not `simp`: `rw` takes the equation lemma of this case as it stands, `simp` reduces the
  -- matches itself and has the kernel reduce them again, and on its way through
  -- `match timeData _ _ with` the kernel unfolds `_ * 86400` on an open term numeral by numeral
  rw [construct, timeData_civil]
  by_cases h : Ntp.seconds y m d hh mm ss < 2 ^ 32 <;> simp only [h, if_true, if_false]

/-- a constructor accepts exactly the values in the domain of its type, and then builds their RFC
    encoding (`unmodelled` results are not acceptances) -/
theorem construct_ok_iff (k : Kind) (vs : List Nat) (v : PyVal) (d : Bytes) (hv : v.valid) :
    construct k vs v = .ok d ↔ dataOf' k vs v = some d := by
  cases k <;> cases v
  -- the pairs whose data is computed, or whose guard is not literally that of `dataOf`
  case address.ip f p =>
    rcases hv with ⟨rfl, hp⟩ | ⟨rfl, hp⟩ <;>
      simp [construct, address_mk_v4, address_mk_v6, dataOf', dataOf, hp]
  case framedIp.ip f p =>
    rcases hv with ⟨rfl, hp⟩ | ⟨rfl, hp⟩ <;> simp [construct, dataOf', dataOf, hp]
  case time.datetime => simp [construct_time_datetime, ite_eq_ok, dataOf', dataOf]
  case tbcd.int n => simp [construct, ite_eq_ok, Tbcd.avpData, BV.C18.fromHex_enc, dataOf', dataOf]
  case unsigned32.bool b => cases b <;> simp [construct, dataOf', dataOf]
  case unsigned64.bool b => cases b <;> simp [construct, dataOf', dataOf]
  -- everywhere else both reject, or test the same guard and return the same bytes
  all_goals simp [construct, ite_eq_ok, dataOf', dataOf, fromBytesOk_iff]

/-- soundness of construction, every kind, every Python value: accepted data is the RFC encoding -/
theorem construct_sound (k : Kind) (vs : List Nat) (v : PyVal) (d : Bytes) (hv : v.valid)
    (h : construct k vs v = .ok d) : dataOf' k vs v = some d :=
  (construct_ok_iff k vs v d hv).mp h

end BV.Dict
