import BromeliaVerif.Model.PsmRef
/-! STATIC refinement proof: the reference translation of `bromelia/statemachine.py` (`Model/PsmRef.lean`, the output
of `harness/gen_psm.py` on the reviewed tree) refines the hand model `Model/Psm.lean`, for EVERY node state, every sound
verdict function and every leftover value of `self.next_state` / `self.name` / `self.msg`. Nothing here depends on /repo;
what depends on /repo is `Gen/PsmGen.lean` and the equality `Gen = Ref` decided in `Properties/C06Gen.lean`.

Each `run()` is compared with the model path by path: `fun_cases` walks the control flow of the model's function, and on
every path `simp` executes the program under the conditions of that path; for that the definitions of the reference
translation are listed by name below (`attribute [local simp]`), a list that follows `Model/PsmRef.lean` when it is re-based. -/
namespace BV.PsmT
open BV.Psm

/- The equations of `exec` are stated by `rw`, not `rfl`: simp then records every execution step in the proof term. With
   `rfl` lemmas the steps vanish from the term and the kernel re-executes whole programs by unfolding (slow for the
   deeper paths of `Open.run`). -/
theorem Prog.exec_skip (V : Verd) (ps : PS) : Prog.skip.exec V ps = ps := by rw [Prog.exec]
theorem Prog.exec_prim (V : Verd) (p : Prim) (ps : PS) : (Prog.prim p).exec V ps = p.exec ps := by rw [Prog.exec]
theorem Prog.exec_seq (V : Verd) (a b : Prog) (ps : PS) : (Prog.seq a b).exec V ps = b.exec V (a.exec V ps) := by
  rw [Prog.exec]
theorem Prog.exec_ite (V : Verd) (c : Cond) (a b : Prog) (ps : PS) :
    (Prog.ite c a b).exec V ps = if c.eval V ps then a.exec V ps else b.exec V ps := by rw [Prog.exec]

end BV.PsmT

namespace BV.PsmRefProof
open BV.Psm BV.PsmT BV.PsmRef

/-- the outcome `r` of `run()` of the state class of `s` agrees with the hand model's `m`: no escaped exception, no
blocking `get()`, no return from `get_next_state`, `self.name` = its own state, and the requested next state and the node
of the model (up to the ghost fields) -/
def Agrees (r : PS) (s : St) (m : Node × St) : Prop :=
  r.err = false ∧ r.stuck = false ∧ r.ret = none ∧ r.name = s ∧ r.next = m.2 ∧ erase r.n = erase m.1

attribute [local simp] Agrees Sound Prog.exec_skip Prog.exec_prim Prog.exec_seq Prog.exec_ite Prim.exec Cond.eval PS.start
  isClientMode isServerMode recvEmpty sendEmpty stateIsActive transportStopped assocConnected testConnection
  kindIs verdict checkRaises needMsg setNext setName setStopThreads setActive clearMsg getMessage createAnswer
  sendMsg sendFlush notifyApp trackingEvents connected erase answer forceStop
  Closed_run Closed_set_closed_state Closed_event_start Closed_set_wait_conn_ack_state Closed_has_recv_queue_message
  Closed_event_responder_conn_cer Closed_set_open_state
  Closing_set_closing_state Closing_is_set_release_signal_from_peer Closing_set_closed_state Closing_event_peer_disc
  Closing_has_recv_queue_message Closing_event_rcv_dpa Closing_run
  Open_run Open_set_open_state Open_is_set_release_signal_from_peer Open_set_closed_state Open_event_open_peer_disc
  Open_is_set_release_signal_from_local Open_set_closing_state Open_event_stop Open_has_send_queue_message
  Open_event_send_message Open_has_recv_queue_message Open_event_open_rcv_dwr Open_event_open_rcv_dwa
  Open_event_open_rcv_dpr Open_event_open_rcv_cer Open_event_open_rcv_cea Open_event_open_rcv_dpa
  Open_event_open_rcv_message
  WaitConnAck_set_wait_conn_ack_state WaitConnAck_set_wait_initiator_cea_state WaitConnAck_event_initiator_rcv_conn_ack
  WaitConnAck_set_closed_state WaitConnAck_event_initiator_rcv_conn_nack WaitConnAck_has_recv_queue_message
  WaitConnAck_set_wait_conn_ack_elect_state WaitConnAck_event_responder_conn_cer WaitConnAck_run
  WaitConnAckElect_set_wait_conn_ack_elect_state WaitConnAckElect_run
  WaitInitiatorCEA_set_wait_initiator_cea_state WaitInitiatorCEA_is_set_release_signal_from_peer
  WaitInitiatorCEA_set_closed_state WaitInitiatorCEA_event_initiator_peer_disc WaitInitiatorCEA_has_recv_queue_message
  WaitInitiatorCEA_set_open_state WaitInitiatorCEA_event_open_rcv_cea WaitInitiatorCEA_event_initiator_rcv_non_cea
  WaitInitiatorCEA_run WaitReturns_set_wait_returns_state WaitReturns_run

/-- executes the program under the conditions of one path of the model (the hypotheses `fun_cases` has introduced;
`zetaDelta`: it binds intermediate nodes by `let`) and compares the outcome with the model's; `contextual`: where the
model tests kind and verdict of a message at once, the code tests one inside the branch of the other -/
macro "psm_simp" : tactic => `(tactic| simp_all +zetaDelta +contextual)

/-- the head message of the receive queue: its kind, validity and addressing bits made concrete -/
macro "psm_msg" hV:ident : tactic => `(tactic| (
      rename_i m rest
      rcases m with ⟨kind, valid, okAddr, hbh, e2e, id⟩
      have h := $hV ⟨kind, valid, okAddr, hbh, e2e, id⟩
      cases kind <;> simp at h <;> cases valid <;> cases okAddr <;> psm_simp <;> simp_all))

variable (V : Verd) (n : Node) (nx nm : St) (mg : Option PMsg)

theorem closing_agrees : Agrees (Closing_run.exec V (PS.start n nx nm mg)) .closing (runClosing n) := by
  fun_cases runClosing n <;> psm_simp

theorem dead_agrees : Agrees (WaitReturns_run.exec V (PS.start n nx nm mg)) .waitReturns (n, .waitReturns) ∧
    Agrees (WaitConnAckElect_run.exec V (PS.start n nx nm mg)) .waitConnAckElect (n, .waitConnAckElect) := by
  psm_simp

variable (hV : Sound V)
include hV

theorem closed_agrees : Agrees (Closed_run.exec V (PS.start n nx nm mg)) .closed (runClosed n) := by
  fun_cases runClosed n <;> psm_simp

theorem waitConnAck_agrees : Agrees (WaitConnAck_run.exec V (PS.start n nx nm mg)) .waitConnAck (runWaitConnAck n) := by
  unfold runWaitConnAck
  fun_cases connAttempt n <;> fun_cases connRecv _ <;> psm_simp

theorem waitICEA_agrees : Agrees (WaitInitiatorCEA_run.exec V (PS.start n nx nm mg)) .waitICEA (runWaitICEA n) := by
  fun_cases runWaitICEA n <;> psm_simp

theorem open_agrees : Agrees (Open_run.exec V (PS.start n nx nm mg)) .opened (runOpen n) := by
  fun_cases runOpen n
  case case5 m _ _ =>
    fun_cases openRecv _ m
    -- `event_open_rcv_dpr`: the model decides about the DPA inside the argument of `forceStop`
    case case5 => cases hv : m.valid <;> psm_simp
    all_goals psm_simp
  all_goals psm_simp

/-- MAIN (static): `run()` of every state class of the reference translation refines the hand model, whatever
`self.next_state`, `self.name` and `self.msg` were left from earlier iterations -/
theorem ref_run_refines : Agrees ((runProg n.st).exec V (PS.start n nx nm mg)) n.st (runState n) := by
  unfold runState runProg
  cases n.st
  · exact closed_agrees V n nx nm mg hV
  · exact waitConnAck_agrees V n nx nm mg hV
  · exact waitICEA_agrees V n nx nm mg hV
  · exact open_agrees V n nx nm mg hV
  · exact (dead_agrees V n nx nm mg).1
  · exact (dead_agrees V n nx nm mg).2
  · exact closing_agrees V n nx nm mg

omit hV n nx nm mg in
/-- `get_next_state(next_state)` of the reference translation is `goto` of the hand model: never raises, returns the
state object of the state the node is then in -/
theorem ref_next_refines (ps : PS) (he : ps.err = false) :
    let r := nextProg.exec V ps
    r.err = false ∧ r.stuck = ps.stuck ∧ erase r.n = erase (goto ps.n ps.name ps.next) ∧ r.ret = some r.n.st := by
  have hk : ∀ s : St, s ∈ stateKeys := by intro s; cases s <;> decide
  by_cases h1 : ps.next = .closed <;> by_cases h2 : ps.name = .closed <;>
    simp [nextProg, PeerStateMachine_get_next_state, goto, returnState, setNotRunning, assocClose, he, hk, h1, h2]

/-! ### the ghost fields

The ghost fields of the hand model (`cexOk`, `answered`) are bookkeeping of the proofs. No condition of the translation
target reads them and no primitive writes them, so a program runs alike from a state and from its erasure; by the
refinement above so does the hand model's `run()`, hence `tick` and every environment action. -/

omit hV n nx nm mg

/-- `ps` with the ghost fields of its node erased -/
def eraseN (ps : PS) : PS := { ps with n := erase ps.n }

theorem eval_erase (c : Cond) (ps : PS) : c.eval V (eraseN ps) = c.eval V ps := by
  induction c <;> simp_all [eraseN, peerGone, connected]

theorem prim_erase (p : Prim) (ps : PS) : eraseN (p.exec (eraseN ps)) = eraseN (p.exec ps) := by
  cases p
  case needMsg | getMessage | sendAnswer | notifyApp =>
    dsimp only [Prim.exec, needMsg, getMessage, sendMsg, notifyApp, eraseN, erase]; split <;> rfl
  case trackingEvents =>
    dsimp only [Prim.exec, trackingEvents, trackEvents, eraseN, erase]
    split
    · split <;> rfl
    · rfl
  all_goals rfl

theorem exec_erase (p : Prog) (ps : PS) : eraseN (p.exec V (eraseN ps)) = eraseN (p.exec V ps) := by
  induction p generalizing ps with
  | skip => rfl
  | prim p => simp only [Prog.exec_prim, prim_erase]
  | seq a b iha ihb => simp only [Prog.exec_seq]; rw [← ihb, iha, ihb]
  | ite c a b iha ihb => simp only [Prog.exec_ite, eval_erase]; split <;> simp only [iha, ihb]

theorem sound_valid : Sound fun _ m => m.valid := fun _ => ⟨fun _ => rfl, fun _ => rfl, fun _ => rfl⟩

theorem runState_erase (n : Node) :
    erase (runState (erase n)).1 = erase (runState n).1 ∧ (runState (erase n)).2 = (runState n).2 := by
  -- the model agrees with the program at `n` and at `erase n`, and the program runs alike from both: `erase n` is in the
  -- same state as `n`, and `PS.start (erase n) ..` is `eraseN (PS.start n ..)` by unfolding, which is how `h` fits
  obtain ⟨-, -, -, -, hx, hn⟩ := ref_run_refines _ n .closed .closed none sound_valid
  obtain ⟨-, -, -, -, hx', hn'⟩ := ref_run_refines _ (erase n) .closed .closed none sound_valid
  have h := exec_erase (fun _ m => m.valid) (runProg n.st) (PS.start n .closed .closed none)
  exact ⟨hn'.symm.trans ((congrArg PS.n h).trans hn), hx'.symm.trans ((congrArg PS.next h).trans hx)⟩

theorem goto_erase (n : Node) (cur nxt : St) : erase (goto (erase n) cur nxt) = erase (goto n cur nxt) := by
  unfold goto; split <;> rfl

theorem tick_erase (n : Node) : erase (tick (erase n)) = erase (tick n) := by
  obtain ⟨h1, h2⟩ := runState_erase n
  show erase (if !n.running then erase n else goto (runState (erase n)).1 n.st (runState (erase n)).2) = erase (tick n)
  unfold tick
  split
  · rfl
  · rw [h2, ← goto_erase, h1, goto_erase]

theorem apply_erase (n : Node) (e : Ev) : erase (apply (erase n) e) = erase (apply n e) := by
  cases e with
  | tick => exact tick_erase n
  | submit id => simp only [apply, show connected (erase n) = connected n from rfl]; split <;> rfl
  | restart =>
    simp only [apply, show (erase n).st = n.st from rfl, show (erase n).running = n.running from rfl]; split <;> rfl
  | _ => rfl

end BV.PsmRefProof
