import BromeliaVerif.Model.Tbcd
namespace BV.C18
open BV BV.Tbcd

theorem tbcdBytes_cons2 (a b : Char) (rest : List Char) :
    Spec.tbcdBytes (a :: b :: rest) = UInt8.ofNat (nib b * 16 + nib a) :: Spec.tbcdBytes rest := by
  unfold Spec.tbcdBytes
  have : ((a :: b :: rest).length + 1) / 2 = (rest.length + 1) / 2 + 1 := by simp; omega
  rw [this, List.range_succ_eq_map, List.map_cons, List.map_map]
  have hhead : Spec.tbcdOctet (a :: b :: rest) 0 = nib b * 16 + nib a := by simp [Spec.tbcdOctet]
  -- after the first octet both sides are `map` over the same range: octet `i + 1` of the longer string is octet `i` of
  -- `rest` by unfolding
  rw [hhead]
  congr 1

/-- the octets of the encoding are the 3GPP TBCD octets of the digit string -/
theorem fromHex_enc : ∀ s : List Char, fromHex (enc s) = Spec.tbcdBytes s
  | [] => rfl
  | [a] => by simp [enc, fromHex, Spec.tbcdBytes, Spec.tbcdOctet, List.range_succ_eq_map]; decide
  | a :: b :: rest => by rw [tbcdBytes_cons2, ← fromHex_enc rest]; simp [enc, fromHex]

end BV.C18
