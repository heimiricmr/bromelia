import BromeliaVerif.Model.Decorate
/-! The steps of `decorate`, each as the record update it makes, and the four composed. -/
namespace BV.Decorate

theorem ebit_add32 (f : Nat) (h : ebit f = false) : ebit (f + 32) = true := by
  unfold ebit at *; simp at *; omega

theorem copySession_eq (a : Ans) (r : Req) : copySession a r = .ok { a with
    session := r.session.or a.session
    length := match r.session with | some d => msgSize { a with session := some d } | none => a.length } := by
  unfold copySession; cases r.session <;> rfl

/-- step 3 refuses exactly an R-flagged message that would need the E flag -/
theorem setError_eq (a : Ans) : setError a =
    if errorFamily a.resultCode = true ∧ ebit a.flags = false ∧ rbit a.flags = true then .error .header
    else .ok { a with flags := if errorFamily a.resultCode = true ∧ ebit a.flags = false then a.flags + 32 else a.flags } := by
  obtain ⟨flags, _, _, _, _, rc, _, _, _⟩ := a
  unfold setError
  cases errorFamily rc <;> cases ebit flags <;> cases rbit flags <;> rfl

theorem dropRc_eq (a : Ans) : dropRc a = { a with
    resultCode := if a.hasExp then none else a.resultCode
    length := if a.hasExp && a.resultCode.isSome then a.length - 12 else a.length } := by
  obtain ⟨_, _, _, _, _, rc, exp, _, _⟩ := a
  unfold dropRc; cases exp <;> cases rc <;> rfl

/-- dropping the Result-Code takes its 12 bytes off the length -/
theorem dropRc_length {a : Ans} (h : a.length = msgSize a) : (dropRc a).length = msgSize (dropRc a) := by
  unfold dropRc
  split
  · rename_i hc
    obtain ⟨n, hn⟩ := Option.isSome_iff_exists.mp (Bool.and_eq_true_iff.mp hc).2
    simp [msgSize, h, hn]
  · exact h

/-- what `decorate` returns unless step 3 refuses -/
def decorated (a : Ans) (r : Req) : Ans := dropRc { a with
  app := r.app, hbh := r.hbh, e2e := r.e2e, session := r.session.or a.session
  flags := if errorFamily a.resultCode = true ∧ ebit a.flags = false then a.flags + 32 else a.flags
  length := match r.session with | some d => msgSize { a with session := some d } | none => a.length }

theorem decorate_eq (a : Ans) (r : Req) : decorate a r =
    if errorFamily a.resultCode = true ∧ ebit a.flags = false ∧ rbit a.flags = true then .error .header
    else .ok (decorated a r) := by
  simp only [decorate, copySession_eq, copyIds, setError_eq]
  by_cases hg : errorFamily a.resultCode = true ∧ ebit a.flags = false ∧ rbit a.flags = true
  · rw [if_pos hg, if_pos hg]
  · rw [if_neg hg, if_neg hg]; rfl

theorem eq_decorated {a o : Ans} {r : Req} (h : decorate a r = .ok o) : o = decorated a r := by
  rw [decorate_eq] at h
  split at h
  · cases h
  · exact (Except.ok.inj h).symm

end BV.Decorate
