import BromeliaVerif.Proofs.Parse
namespace BV.Parse
open BV BV.Dict

/-- an error of the model that is not a foreign (non-library) exception -/
def Err.notStd : Err → Prop
  | .std _ => False
  | _ => True

mutual
  /-- number of AVP objects in a decoded forest, members of Grouped AVPs included -/
  def nodes : LAvp → Nat
    | .mk _ _ kids => 1 + nodesList kids
  def nodesList : List LAvp → Nat
    | [] => 0
    | k :: ks => nodes k + nodesList ks
end

theorem acceptLeaf_spec (k : Kind) (vs : List Nat) (d : Bytes) :
    match acceptLeaf k vs d with
    | .error e => e.notStd
    | .ok _ => True := by
  fun_cases acceptLeaf k vs d <;> trivial

/-- what re-construction by the dictionary class adds to the nested decode `kids`: its own failures
    are library errors, and its result has members only if it is Grouped, then those `kids` returned -/
theorem materialise_spec (dict : List Entry) (raw : Avp) (kids : Unit → Except Err (List LAvp)) :
    match materialise dict raw kids with
    | .error e => e.notStd ∨ kids () = .error e
    | .ok a => a.kids = [] ∨ kids () = .ok a.kids := by
  fun_cases materialise dict raw kids
  case case1 => exact .inl rfl
  case case2 hk => exact .inr hk
  case case3 hk _ => exact .inr hk
  case case4 => exact .inl trivial
  case case5 e _ _ _ ha => exact .inl (by simpa only [ha] using acceptLeaf_spec e.kind e.values raw.data)
  case case6 => exact .inl rfl

/-- ∀ byte strings: the AVP decoder returns AVPs or fails with a library error — never a foreign
    exception — and returns at most one AVP object (all nesting levels; this is also the number of
    loop iterations of a successful decode) per 8 input bytes. (Termination is part of the
    definition: `loadAvps` is accepted by well-founded recursion on the length of the stream.) -/
theorem loadAvps_safe (dict : List Entry) (s : Bytes) :
    match loadAvps dict s with
    | .error e => e.notStd
    | .ok as => 8 * nodesList as ≤ s.length := by
  fun_induction loadAvps dict s with
  | case1 => exact Nat.le_refl 0
  | case2 s _ e hp => rw [parseOne_error hp]; trivial
  | case3 s _ raw rest _ er hm ihd =>
    obtain h | h : er.notStd ∨ loadAvps dict raw.data = .error er := by
      simpa only [hm] using materialise_spec dict raw fun _ => loadAvps dict raw.data
    · exact h
    · simpa only [h] using ihd
  | case4 s _ raw rest _ a _ er hr _ ihr => simpa only [hr] using ihr
  | case5 s _ raw rest hp a hm ks hr ihd ihr =>
    have hk : 8 * nodesList a.kids ≤ raw.data.length := by
      obtain h | h : a.kids = [] ∨ loadAvps dict raw.data = .ok a.kids := by
        simpa only [hm] using materialise_spec dict raw fun _ => loadAvps dict raw.data
      · rw [h]; exact Nat.zero_le _
      · simpa only [h] using ihd
    have := parseOne_ok hp
    simp only [hr] at ihr
    cases a
    simp only [nodesList, nodes, LAvp.kids] at hk ⊢
    omega

theorem loadAvps_errors_are_library (dict : List Entry) (s : Bytes) (e : Err) (h : loadAvps dict s = .error e) : e.notStd := by
  simpa only [h] using loadAvps_safe dict s

/-- message splitter: library errors only, and at most one message per 20 input bytes -/
theorem loadMsgs_safe (dict : List Entry) (s : Bytes) :
    match loadMsgs dict s with
    | .error e => e.notStd
    | .ok ms => 20 * ms.length ≤ s.length := by
  fun_induction loadMsgs dict s with
  | case1 => exact Nat.le_refl 0
  | case2 => trivial
  | case3 => trivial
  | case4 s _ _ hdr _ er ha => exact loadAvps_errors_are_library dict _ _ ha
  | case5 s _ _ hdr _ ks _ e hr ih => simpa only [hr] using ih
  | case6 s h0 _ hdr _ ks _ more hr ih =>
    simp only [hr, List.length_drop] at ih
    have := List.length_pos_iff.mpr h0
    simp only [List.length_cons]
    omega

end BV.Parse
