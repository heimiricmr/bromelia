import BromeliaVerif.Spec.Decode
import BromeliaVerif.Proofs.Parse
namespace BV.Spec
open BV BV.Dict BV.Parse

/-- the raw AVP on the wire for a content node -/
def root : Content → Avp
  | .leaf c f v d => ⟨c, f, v, d⟩
  | .grouped c f v ks => ⟨c, f, v, encList ks⟩

theorem enc_eq_root_dump (t : Content) : enc t = (root t).dump := by
  cases t <;> simp [enc, root, Avp.dump_eq_encAvp]

theorem dispatch_key (dict : List Entry) (raw : Avp) : dispatch dict raw = dispatch dict (key raw.code raw.vendor) := rfl

/-- a dispatched class is a table entry filed under the (Vendor-ID, code) of the raw AVP -/
theorem dispatch_some {dict : List Entry} {raw : Avp} {e : Entry} (h : dispatch dict raw = some e) :
    e ∈ dict ∧ e.code = raw.code ∧ e.vendor = raw.vendor := by
  obtain ⟨hl, hv⟩ := dispatch_eq_some.mp h
  have hk := List.find?_some hl
  simp only [Entry.key, beq_iff_eq, Prod.mk.injEq] at hk
  refine ⟨by simpa using List.mem_of_find?_eq_some hl, hk.2, ?_⟩
  -- same presence (the guard) and same value-or-0 (the key)
  cases hev : e.vendor <;> cases hrv : raw.vendor <;> simp_all

theorem fieldsOk_WF {c f : Nat} {v : Option Nat} {d : Bytes} (h : fieldsOk c f v d.length = true) :
    (Avp.mk c f v d).WF := by
  unfold fieldsOk at h
  simp only [Bool.and_eq_true, decide_eq_true_eq, beq_iff_eq] at h
  obtain ⟨⟨⟨⟨h1, h2⟩, h3⟩, h4⟩, h5⟩ := h
  refine ⟨h1, h2, h3, h4, ?_⟩
  unfold Avp.len; rw [hdrLen_eq]; exact h5

theorem good_root_WF (dict : List Entry) (t : Content) (h : good dict t = true) : (root t).WF := by
  cases t <;> simp only [good, Bool.and_eq_true] at h
  · exact fieldsOk_WF h.1
  · exact fieldsOk_WF h.1.1

theorem obs_code (dict : List Entry) (t : Content) : (obs dict t).avp.code = rootCode t := by
  cases t with
  | leaf c f v d =>
    simp only [obs, rootCode]
    split
    · rfl
    · rename_i e he; exact (dispatch_some he).2.1
  | grouped c f v ks =>
    simp only [obs, rootCode]
    split
    · rfl
    · rename_i e he
      split <;> exact (dispatch_some he).2.1

theorem any_obsList (dict : List Entry) (ks : List Content) (m : Nat) :
    (obsList dict ks).any (fun k => k.avp.code == m) = ks.any (fun k => rootCode k == m) := by
  induction ks with
  | nil => simp [obsList]
  | cons k ks ih => simp [obsList, obs_code, ih]

theorem acceptLeaf_of_leafOk {e : Entry} {d : Bytes} (h : leafOk e d = true) : acceptLeaf e.kind e.values d = .ok () := by
  unfold leafOk at h
  split at h
  · assumption
  · cases h

/-- the first iteration on the encoding of a good tree parses its root AVP back -/
theorem loadAvps_enc (dict : List Entry) (t : Content) (rest : Bytes) (hg : good dict t = true) :
    loadAvps dict (enc t ++ rest) =
      match materialise dict (root t) (fun _ => loadAvps dict (root t).data) with
      | .error er => .error er
      | .ok a => consRes a (loadAvps dict rest) := by
  rw [enc_eq_root_dump]
  exact loadAvps_step dict (parseOne_dump _ rest (good_root_WF dict t hg))

mutual
  /-- decoding the encoding of a good content tree, followed by any rest, yields its observation -/
  theorem load_enc_one (dict : List Entry) : ∀ (t : Content) (rest : Bytes), good dict t = true →
      loadAvps dict (enc t ++ rest) = consRes (obs dict t) (loadAvps dict rest)
    | .leaf c f v d, rest, hg => by
      rw [loadAvps_enc dict _ rest hg]
      simp only [good, Bool.and_eq_true] at hg
      simp only [materialise, root, obs, dispatch_key dict ⟨c, f, v, d⟩]
      cases hd : dispatch dict (key c v) with
      | none => rfl
      | some e =>
        simp only [hd, bne_iff_ne, ne_eq, Bool.and_eq_true] at hg
        simp only [hg.2.1, ↓reduceIte, acceptLeaf_of_leafOk hg.2.2]
    | .grouped c f v ks, rest, hg => by
      rw [loadAvps_enc dict _ rest hg]
      simp only [good, Bool.and_eq_true] at hg
      obtain ⟨⟨_, hgl⟩, hdsp⟩ := hg
      simp only [materialise, root, obs, dispatch_key dict ⟨c, f, v, encList ks⟩]
      cases hd : dispatch dict (key c v) with
      | none => rfl
      | some e =>
        simp only [hd] at hdsp
        by_cases hk : e.kind = .grouped
        · -- the members decode to their observations, whose codes are those of the members
          simp only [hk, ↓reduceIte] at hdsp ⊢
          simp only [load_enc_list dict ks hgl, any_obsList, hdsp, ↓reduceIte]
        · simp only [hk, ↓reduceIte] at hdsp ⊢
          simp only [acceptLeaf_of_leafOk hdsp]
  theorem load_enc_list (dict : List Entry) : ∀ ts : List Content, goodList dict ts = true →
      loadAvps dict (encList ts) = .ok (obsList dict ts)
    | [], _ => loadAvps_nil dict
    | t :: ts, hg => by
      simp only [goodList, Bool.and_eq_true] at hg
      simp only [encList, obsList]
      rw [load_enc_one dict t (encList ts) hg.1, load_enc_list dict ts hg.2]
      rfl
end

end BV.Spec
