import BromeliaVerif.Model.Inbound
/-! What `splitStream` (the model of `split_data_stream`) does: on any byte string, and on the encoding of a
sequence of well-formed messages followed by the beginning of another. -/
namespace BV.Inbound

/-- the split keeps every byte -/
theorem splitStream_keeps (f : Nat) (t : Bytes) : (splitStream f t).1.flatten ++ (splitStream f t).2 = t := by
  induction f generalizing t with
  | zero => simp [splitStream]
  | succ f ih =>
    unfold splitStream
    split
    · simp
    · split
      · simp
      · simp only [List.flatten_cons, List.append_assoc, ih]
        exact List.take_append_drop _ _

theorem splitStream_nil (f : Nat) : splitStream f [] = ([], []) := by
  cases f <;> rfl

theorem lenField_append (m rest : Bytes) (h : 4 ≤ m.length) : lenField (m ++ rest) = lenField m := by
  unfold lenField
  rw [List.drop_append_of_le_length (by omega), List.take_append_of_le_length (by simp; omega)]

/-- a prefix of a well-formed message that is shorter than the message is never taken for complete -/
theorem splitStream_incomplete {m p : Bytes} (hm : WellFormed m) (hp : p <+: m) (hlt : p.length < m.length) (f : Nat) :
    splitStream f p = ([], p) := by
  cases f with
  | zero => rfl
  | succ f =>
    unfold splitStream
    split
    · rfl
    · -- the header is there, and its length field asks for more than there is
      obtain ⟨t, rfl⟩ := hp
      rw [if_pos (.inr (by rw [← lenField_append p t (by omega), hm.2]; exact hlt))]

/-- a well-formed message at the head of the stream is split off whole -/
theorem splitStream_cons {m : Bytes} (hm : WellFormed m) (f : Nat) (rest : Bytes) :
    splitStream (f + 1) (m ++ rest) = (m :: (splitStream f rest).1, (splitStream f rest).2) := by
  have hl : lenField (m ++ rest) = m.length := by rw [lenField_append m rest (by have := hm.1; omega), hm.2]
  have h20 := hm.1
  rw [splitStream, if_neg (by simp; omega), hl, if_neg (by simp; omega)]
  simp

/-- FRAMING: the encoding of well-formed messages followed by bytes that do not make a message splits into exactly
    those messages and those bytes -/
theorem splitStream_flatten {ms : List Bytes} (hwf : ∀ m ∈ ms, WellFormed m) {q : Bytes} (hq : ∀ f, splitStream f q = ([], q))
    {f : Nat} (hf : (ms.flatten ++ q).length ≤ f) : splitStream f (ms.flatten ++ q) = (ms, q) := by
  induction ms generalizing f with
  | nil => exact hq f
  | cons m ms ih =>
    have hm := hwf m List.mem_cons_self
    have h20 := hm.1
    simp only [List.flatten_cons, List.append_assoc, List.length_append] at hf ⊢
    obtain ⟨f, rfl⟩ : ∃ f', f = f' + 1 := ⟨f - 1, by omega⟩
    rw [splitStream_cons hm, ih (fun x hx => hwf x (List.mem_cons_of_mem _ hx)) (by rw [List.length_append]; omega)]

end BV.Inbound
