import BromeliaVerif.Model.Bits
/-! Bit `b < 32` of the big-endian word lives in data byte `3 - b / 8` at position `b % 8`. The three operations are
described byte-wise first (`isBitSetD_eq_byte`, `setBitD_eq`, `unsetBitD_eq`: no assumption on the bytes), where
`set_bit` and `unset_bit` undo each other byte for byte; `testBit_word` carries a statement about a byte over to the
word when the four data are bytes. -/
namespace BV.Bits

theorem and_two_pow_eq (x j : Nat) : x &&& 2 ^ j = if x.testBit j then 2 ^ j else 0 := by
  apply Nat.eq_of_testBit_eq
  intro i
  rw [Nat.testBit_and, Nat.testBit_two_pow]
  by_cases hij : j = i
  · subst hij; cases h : x.testBit j <;> simp [Nat.testBit_two_pow_self]
  · cases h : x.testBit j <;> simp [hij, Nat.testBit_two_pow_of_ne hij]

theorem and_two_pow_ne_zero (x j : Nat) : (x &&& 2 ^ j != 0) = x.testBit j := by
  rw [and_two_pow_eq]
  cases h : x.testBit j <;> simp

theorem or_xor_two_pow (x j : Nat) (h : x.testBit j = false) : (x ||| 2 ^ j) ^^^ 2 ^ j = x := by
  apply Nat.eq_of_testBit_eq
  intro i
  rw [Nat.testBit_xor, Nat.testBit_or, Nat.testBit_two_pow]
  by_cases e : j = i
  · subst e; simp [h]
  · simp [e]

theorem xor_or_two_pow (x j : Nat) (h : x.testBit j = true) : (x ^^^ 2 ^ j) ||| 2 ^ j = x := by
  apply Nat.eq_of_testBit_eq
  intro i
  rw [Nat.testBit_or, Nat.testBit_xor, Nat.testBit_two_pow]
  by_cases e : j = i
  · subst e; simp [h]
  · simp [e]

theorem or_byte_lt (x b : Nat) (hx : x < 256) : x ||| 2 ^ (b % 8) < 256 :=
  Nat.or_lt_two_pow (n := 8) hx (Nat.pow_lt_pow_right (by decide) (Nat.mod_lt _ (by decide)))

theorem xor_byte_lt (x b : Nat) (hx : x < 256) : x ^^^ 2 ^ (b % 8) < 256 :=
  Nat.xor_lt_two_pow (n := 8) hx (Nat.pow_lt_pow_right (by decide) (Nat.mod_lt _ (by decide)))

/-! ### The three operations, byte-wise -/

theorem isBitSetD_eq_byte (d : Nat → Nat) (b : Nat) :
    isBitSetD d b = if b < 32 then some ((d (3 - b / 8)).testBit (b % 8)) else none := by
  unfold isBitSetD
  simp only [and_two_pow_ne_zero]
  by_cases h8 : b < 8
  · rw [if_pos h8, if_pos (Nat.lt_trans h8 (by decide)), Nat.mod_eq_of_lt h8, Nat.div_eq_of_lt h8]
  rw [if_neg h8]
  by_cases h16 : b < 16
  · rw [if_pos h16, if_pos (Nat.lt_trans h16 (by decide)), show b / 8 = 1 by omega]
  rw [if_neg h16]
  by_cases h24 : b < 24
  · rw [if_pos h24, if_pos (Nat.lt_trans h24 (by decide)), show b / 8 = 2 by omega]
  rw [if_neg h24]
  by_cases h32 : b < 32
  · rw [if_pos h32, if_pos h32, show b / 8 = 3 by omega]
  · rw [if_neg h32, if_neg h32]

theorem setBitD_eq (d : Nat → Nat) (b : Nat) :
    setBitD d b = if b < 32 ∧ (d (3 - b / 8)).testBit (b % 8) = false
      then some (upd d (3 - b / 8) (d (3 - b / 8) ||| 2 ^ (b % 8))) else none := by
  unfold setBitD
  rw [isBitSetD_eq_byte]
  by_cases hb : b < 32
  · cases h : (d (3 - b / 8)).testBit (b % 8) <;> simp [hb]
  · simp [hb]

theorem unsetBitD_eq (d : Nat → Nat) (b : Nat) :
    unsetBitD d b = if b < 32 ∧ (d (3 - b / 8)).testBit (b % 8) = true
      then some (upd d (3 - b / 8) (d (3 - b / 8) ^^^ 2 ^ (b % 8))) else none := by
  unfold unsetBitD
  rw [isBitSetD_eq_byte]
  by_cases hb : b < 32
  · cases h : (d (3 - b / 8)).testBit (b % 8) <;> simp [hb]
  · simp [hb]

theorem upd_same (d : Nat → Nat) (k v : Nat) : upd d k v k = v := if_pos rfl

theorem upd_upd (d : Nat → Nat) (k v w : Nat) : upd (upd d k v) k w = upd d k w := by
  funext i; unfold upd; split <;> rfl

theorem upd_self (d : Nat → Nat) (k : Nat) : upd d k (d k) = d := by
  funext i; unfold upd; split
  · next h => rw [h]
  · rfl

/-- `unset_bit` undoes `set_bit`, byte for byte -/
theorem unsetBitD_setBitD (d d' : Nat → Nat) (b : Nat) (h : setBitD d b = some d') : unsetBitD d' b = some d := by
  rw [setBitD_eq] at h
  split at h
  · next hc =>
    cases h
    rw [unsetBitD_eq, upd_same, if_pos ⟨hc.1, by simp⟩, upd_upd, or_xor_two_pow _ _ hc.2, upd_self]
  · cases h

theorem setBitD_unsetBitD (d d' : Nat → Nat) (b : Nat) (h : unsetBitD d b = some d') : setBitD d' b = some d := by
  rw [unsetBitD_eq] at h
  split at h
  · next hc =>
    cases h
    rw [setBitD_eq, upd_same, if_pos ⟨hc.1, by simp [hc.2]⟩, upd_upd, xor_or_two_pow _ _ hc.2, upd_self]
  · cases h

/-! ### Bytes and word -/

theorem testBit_byte (w s j : Nat) (hj : j < 8) : (w / 2 ^ s % 256).testBit j = w.testBit (s + j) := by
  have : (256 : Nat) = 2 ^ 8 := by decide
  rw [this, Nat.testBit_mod_two_pow, Nat.testBit_div_two_pow]
  simp [hj, Nat.add_comm]

/-- bytes of a word built from four bytes -/
theorem byteOf_word (d : Nat → Nat) (hd : ∀ k, k < 4 → d k < 256) (k : Nat) (hk : k < 4) :
    byteOf (word d) k = d k := by
  have h0 := hd 0 (by omega); have h1 := hd 1 (by omega)
  have h2 := hd 2 (by omega); have h3 := hd 3 (by omega)
  unfold byteOf word
  have : k = 0 ∨ k = 1 ∨ k = 2 ∨ k = 3 := by omega
  rcases this with rfl | rfl | rfl | rfl <;> simp <;> omega

theorem testBit_word (d : Nat → Nat) (hd : ∀ k, k < 4 → d k < 256) (b : Nat) (hb : b < 32) :
    (word d).testBit b = (d (3 - b / 8)).testBit (b % 8) := by
  rw [← byteOf_word d hd (3 - b / 8) (by omega), byteOf, testBit_byte _ _ _ (Nat.mod_lt _ (by decide))]
  congr 1; omega

theorem word_lt (d : Nat → Nat) (hd : ∀ k, k < 4 → d k < 256) : word d < 2 ^ 32 := by
  have h0 := hd 0 (by omega); have h1 := hd 1 (by omega)
  have h2 := hd 2 (by omega); have h3 := hd 3 (by omega)
  unfold word; omega

theorem isBitSetD_eq (d : Nat → Nat) (hd : ∀ k, k < 4 → d k < 256) (b : Nat) (hb : b < 32) :
    isBitSetD d b = some ((word d).testBit b) := by
  rw [isBitSetD_eq_byte, if_pos hb, testBit_word d hd b hb]

theorem upd_lt (d : Nat → Nat) (hd : ∀ k, k < 4 → d k < 256) (k v : Nat) (hv : v < 256) :
    ∀ i, i < 4 → upd d k v i < 256 := by
  intro i hi; unfold upd; split
  · exact hv
  · exact hd i hi

/-- the data after `set_bit` are bytes again -/
theorem setBitD_lt (d : Nat → Nat) (hd : ∀ k, k < 4 → d k < 256) (b : Nat) (d' : Nat → Nat) (h : setBitD d b = some d') :
    ∀ k, k < 4 → d' k < 256 := by
  rw [setBitD_eq] at h
  split at h
  · cases h; exact upd_lt d hd _ _ (or_byte_lt _ b (hd _ (by omega)))
  · cases h

/-- bits of the word after one byte has been replaced -/
theorem testBit_word_upd (d : Nat → Nat) (hd : ∀ k, k < 4 → d k < 256) (k v : Nat) (hv : v < 256)
    (i : Nat) (hi : i < 32) :
    (word (upd d k v)).testBit i = if 3 - i / 8 = k then v.testBit (i % 8) else (word d).testBit i := by
  rw [testBit_word _ (upd_lt d hd k v hv) i hi, testBit_word d hd i hi]
  unfold upd; split <;> rfl

/-- Combining the byte that holds bit `b` with the mask `2 ^ (b % 8)` under a bitwise operation `op` (`f` on each
bit, leaving a bit alone where the mask has none) applies `f` to bit `b` of the word and changes no other bit. -/
theorem testBit_word_mask {op : Nat → Nat → Nat} {f : Bool → Bool → Bool}
    (hop : ∀ x y i, (op x y).testBit i = f (x.testBit i) (y.testBit i)) (hf : ∀ a, f a false = a)
    (d : Nat → Nat) (hd : ∀ k, k < 4 → d k < 256) (b : Nat) (hb : b < 32)
    (hv : op (d (3 - b / 8)) (2 ^ (b % 8)) < 256) (i : Nat) (hi : i < 32) :
    (word (upd d (3 - b / 8) (op (d (3 - b / 8)) (2 ^ (b % 8))))).testBit i
      = f ((word d).testBit i) (decide (i = b)) := by
  rw [testBit_word_upd d hd _ _ hv i hi, testBit_word d hd i hi]
  split
  · next e => rw [hop, Nat.testBit_two_pow, e, show decide (b % 8 = i % 8) = decide (i = b) from decide_eq_decide.2 (by omega)]
  · next e => rw [show decide (i = b) = false from decide_eq_false fun h => e (h ▸ rfl), hf]

/-! ### Four data bytes as a tuple: what the translated `set_bit` / `unset_bit` take and return -/

def tup (f : Nat → Nat) : Nat × Nat × Nat × Nat := (f 0, f 1, f 2, f 3)

theorem acc4_lt {d0 d1 d2 d3 : Nat} (h0 : d0 < 256) (h1 : d1 < 256) (h2 : d2 < 256) (h3 : d3 < 256) :
    ∀ k, k < 4 → acc4 d0 d1 d2 d3 k < 256 := by
  intro k _; unfold acc4
  split; exact h0
  split; exact h1
  split; exact h2
  exact h3

theorem acc4_apply (f : Nat → Nat) (k : Nat) (hk : k < 4) : acc4 (f 0) (f 1) (f 2) (f 3) k = f k := by
  have : k = 0 ∨ k = 1 ∨ k = 2 ∨ k = 3 := by omega
  rcases this with rfl | rfl | rfl | rfl <;> rfl

/-- `unset_bit` reads and writes the four data bytes only -/
theorem unsetBitD_acc4 (d : Nat → Nat) (b : Nat) :
    (unsetBitD (acc4 (d 0) (d 1) (d 2) (d 3)) b).map tup = (unsetBitD d b).map tup := by
  rw [unsetBitD_eq, unsetBitD_eq]
  by_cases hb : b < 32
  · rw [acc4_apply d _ (by omega)]; split <;> rfl
  · rw [if_neg (fun h => hb h.1), if_neg (fun h => hb h.1)]

end BV.Bits
