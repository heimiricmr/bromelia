import BromeliaVerif.Model.Route
import BromeliaVerif.Proofs.Lists
/-! What `upd`, and with it `register`, does to a later lookup. -/
namespace BV.Route

/-- the test `upd` makes: is `k` bound? -/
theorem any_key_eq {β : Type} (l : List (Nat × β)) (k : Nat) : l.any (·.1 == k) = (l.lookup k).isSome := by
  rw [Bool.eq_iff_iff, List.any_eq_true, List.lookup_isSome_iff]
  exact exists_congr fun _ => and_congr_right fun _ => by rw [Bool.beq_comm]

/-- `upd` binds `k` to `f` of its old value, or to `d` if it had none, and leaves every other key alone -/
theorem lookup_upd {β : Type} (l : List (Nat × β)) (k k' : Nat) (f : β → β) (d : β) :
    (upd l k f d).lookup k' = if k = k' then some ((l.lookup k).elim d f) else l.lookup k' := by
  unfold upd
  rw [any_key_eq]
  cases hv : l.lookup k with
  | some v =>
    -- the entry of `k` is rewritten in place: a change of values that leaves the keys alone
    have : (fun p : Nat × β => if p.1 == k then (k, f p.2) else p) = fun p => (p.1, if p.1 == k then f p.2 else p.2) := by
      funext p; split
      · rename_i h; rw [eq_of_beq h]
      · rfl
    rw [Option.isSome_some, if_pos rfl, this, lookup_map_val fun a b => if a == k then f b else b]
    by_cases hk : k = k'
    · simp [← hk, hv]
    · simp [hk, Ne.symm hk]
  | none =>
    -- a new entry goes to the end
    rw [Option.isSome_none, if_neg Bool.false_ne_true, List.lookup_append, lookup_single]
    by_cases hk : k = k'
    · simp [← hk, hv]
    · simp [hk, Ne.symm hk]

/-- after registering, the pair dispatches to the new handler, and every other pair — in particular the
    same command code under another application, and another command under the same application — is
    untouched -/
theorem dispatch_register (t : Table) (app cmd h app' cmd' : Nat) :
    dispatch (register t app cmd h) app' cmd' = if app = app' ∧ cmd = cmd' then some h else dispatch t app' cmd' := by
  unfold dispatch register
  rw [lookup_upd]
  by_cases ha : app = app'
  · subst ha
    cases t.lookup app with
    | none =>
      by_cases hc : cmd = cmd'
      · simp [hc]
      · simp [hc, Ne.symm hc]
    | some inner => cases hc : inner.lookup cmd <;> simp [lookup_upd, hc]
  · simp [ha]

end BV.Route
