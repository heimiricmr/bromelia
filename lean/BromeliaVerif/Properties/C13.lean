import BromeliaVerif.Proofs.Route
import BromeliaVerif.Properties.C12
/-! C13 — each request reaches its registered handler and always gets exactly one answer. -/
namespace BV.C13
open BV BV.Route BV.Decorate

structure Reg where
  app : Nat
  cmd : Nat
  h : Nat
deriving Repr, Inhabited

def build (hist : List Reg) (t0 : Table) : Table := hist.foldl (fun t r => register t r.app r.cmd r.h) t0

/-- the handler registered last for exactly this pair -/
def lastFor : List Reg → Nat → Nat → Option Nat
  | [], _, _ => none
  | r :: rs, app, cmd =>
    match lastFor rs app cmd with
    | some h => some h
    | none => if r.app = app ∧ r.cmd = cmd then some r.h else none

/-- dispatch is exact for every registration history (1..n applications × 1..m command codes,
    codes shared across applications, re-registrations): the handler run is the one registered last
    for exactly that (Application-ID, command code) pair -/
theorem dispatch_exact (hist : List Reg) : ∀ (t0 : Table) (app cmd : Nat),
    dispatch (build hist t0) app cmd = (match lastFor hist app cmd with | some h => some h | none => dispatch t0 app cmd) := by
  induction hist with
  | nil => intro t0 app cmd; rfl
  | cons r rs ih =>
    intro t0 app cmd
    -- the first registration is the innermost: later ones win (`ih`), then `r`, then `t0`
    show dispatch (build rs (register t0 r.app r.cmd r.h)) app cmd = _
    rw [ih, dispatch_register, lastFor]
    cases lastFor rs app cmd with
    | some h => rfl
    | none => dsimp only; split <;> rfl

/-- the request carries what the error answer needs (every application request does) -/
def complete (r : Request) : Prop := r.session.isSome ∧ r.originHost.isSome ∧ r.originRealm.isSome

theorem errorAnswer_complete (l : Local) (r : Request) (hc : complete r) : ∃ e, errorAnswer l r = some e := by
  obtain ⟨h1, h2, h3⟩ := hc
  obtain ⟨s, hs⟩ := Option.isSome_iff_exists.mp h1
  obtain ⟨oh, ho⟩ := Option.isSome_iff_exists.mp h2
  obtain ⟨orr, hr⟩ := Option.isSome_iff_exists.mp h3
  exact ⟨_, by rw [errorAnswer, hs, ho, hr]⟩

/-- exactly one answer per request, and by the right handler: for every route table, every request
    with a registered pair and every handler outcome {answer, None, wrong type, standard exception} -/
theorem one_answer_per_request (t : Table) (l : Local) (beh : Nat → Outcome) (r : Request) (h : Nat)
    (hd : dispatch t r.app r.cmd = some h) (hc : complete r)
    (hpre : ∀ a, beh h = .answer a → C12.Pre a (toReq r)) :
    (callbackRoute t l beh r).ran = some h ∧ (callbackRoute t l beh r).sent.length = 1 ∧
    (callbackRoute t l beh r).failure = none := by
  obtain ⟨e, he⟩ := errorAnswer_complete l r hc
  simp only [callbackRoute, hd, he]
  split
  · rename_i a hb
    obtain ⟨o, ho⟩ := C12.decorate_ok a (toReq r) (hpre a hb)
    simp [ho]
  · simp

/-- shape of the error answer: DIAMETER_UNABLE_TO_COMPLY, the request's command, Application-ID,
    identifiers and Session-Id, the local origin, the requester as destination -/
theorem error_answer_shape (l : Local) (r : Request) (e : ErrorAnswer) (h : errorAnswer l r = some e) :
    e.resultCode = 5012 ∧ e.cmd = r.cmd ∧ e.app = r.app ∧ e.hbh = r.hbh ∧ e.e2e = r.e2e ∧
    r.session = some e.session ∧ e.originHost = l.host ∧ e.originRealm = l.realm ∧
    r.originRealm = some e.destRealm ∧ r.originHost = some e.destHost := by
  unfold errorAnswer at h
  split at h
  · rename_i hs ho hr
    cases h
    exact ⟨rfl, rfl, rfl, rfl, rfl, hs, rfl, rfl, hr, ho⟩
  · cases h

/-- a handler that returns an answer gets it decorated and sent; any other outcome yields the error answer -/
theorem outcome_kind (t : Table) (l : Local) (beh : Nat → Outcome) (r : Request) (h : Nat)
    (hd : dispatch t r.app r.cmd = some h) (hc : complete r) :
    (∀ a, beh h ≠ .answer a) → ∃ e, (callbackRoute t l beh r).sent = [.error e] ∧ errorAnswer l r = some e := by
  intro hna
  obtain ⟨e, he⟩ := errorAnswer_complete l r hc
  refine ⟨e, ?_, he⟩
  -- `hna` discharges the side condition of the catch-all branch of the match on `beh h`
  simp only [callbackRoute, hd, he]

-- non-vacuity: command 272 registered under two applications, re-registered once
example : let t := build [⟨16777238, 272, 1⟩, ⟨4, 272, 2⟩, ⟨16777238, 258, 3⟩, ⟨4, 272, 5⟩] []
    dispatch t 16777238 272 = some 1 ∧ dispatch t 4 272 = some 5 ∧ dispatch t 16777238 258 = some 3 ∧ dispatch t 4 258 = none := by
  decide

end BV.C13
