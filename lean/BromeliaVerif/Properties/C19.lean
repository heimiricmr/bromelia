import BromeliaVerif.Model.Config
import BromeliaVerif.Proofs.Lists
/-! C19 — a configuration is reflected faithfully or rejected, never silently altered. -/
namespace BV.C19
open BV BV.Config

/-- order independence: accept/reject, the error class and the accepted Connection are invariant
    under every permutation of the keys -/
theorem order_independent (c c' : Cfg) (hp : c.Perm c') (hn : (c.map (·.1)).Nodup) : convert c = convert c' := by
  unfold convert Config.get
  rw [hp.any_eq, hp.any_eq]
  simp only [lookup_perm hp hn]

/-- an unknown key is never silently accepted -/
theorem unknown_key_rejected (c : Cfg) (k : String) (v : CVal) (hm : (k, v) ∈ c) (hk : k ∉ mask) :
    convert c = .error .invalidKey := by
  unfold convert
  have : c.any (fun kv => !mask.contains kv.1) = true :=
    List.any_eq_true.mpr ⟨(k, v), hm, by simpa [List.contains_iff_mem] using hk⟩
  rw [if_pos this]

/-- an invalid value under a known key is never silently accepted -/
theorem invalid_value_rejected (c : Cfg) (k : String) (v : CVal) (hm : (k, v) ∈ c) (hv : validKV k v = false) :
    ∃ e, convert c = .error e ∧ (e = .invalidKey ∨ e = .invalidValue) := by
  unfold convert
  split
  · exact ⟨_, rfl, .inl rfl⟩
  · have : c.any (fun kv => !validKV kv.1 kv.2) = true := List.any_eq_true.mpr ⟨(k, v), hm, by simp [hv]⟩
    simp only [this, ↓reduceIte]
    exact ⟨_, rfl, .inr rfl⟩

/-- accepted ⇒ every field of the Connection is exactly the configured value, and the checked fields
    are in range: mode CLIENT/SERVER, transport TCP/SCTP, valid IPv4 addresses, integer timeout -/
theorem accept_reflects (c : Cfg) (conn : Connection) (h : convert c = .ok conn) :
    get c "MODE" = some conn.mode ∧ get c "TRANSPORT_TYPE" = some conn.transport ∧
    get c "APPLICATIONS" = some conn.applications ∧ get c "LOCAL_NODE_HOSTNAME" = some conn.localHost ∧
    get c "LOCAL_NODE_REALM" = some conn.localRealm ∧ get c "LOCAL_NODE_IP_ADDRESS" = some conn.localIp ∧
    get c "LOCAL_NODE_PORT" = some conn.localPort ∧ get c "PEER_NODE_HOSTNAME" = some conn.peerHost ∧
    get c "PEER_NODE_REALM" = some conn.peerRealm ∧ get c "PEER_NODE_IP_ADDRESS" = some conn.peerIp ∧
    get c "PEER_NODE_PORT" = some conn.peerPort ∧ get c "WATCHDOG_TIMEOUT" = some conn.watchdog ∧
    (∀ k v, (k, v) ∈ c → k ∈ mask ∧ validKV k v = true) := by
  unfold convert at h
  split at h; · cases h
  rename_i hk
  split at h; · cases h
  rename_i hv
  split at h
  · cases h
    -- the twelve equations are the hypotheses of the arm of the `match` that builds the tuple
    refine ⟨‹_›, ‹_›, ‹_›, ‹_›, ‹_›, ‹_›, ‹_›, ‹_›, ‹_›, ‹_›, ‹_›, ‹_›, fun k v hm => ⟨?_, ?_⟩⟩
    · simpa [List.contains_iff_mem] using List.any_eq_false.mp (Bool.eq_false_iff.mpr hk) (k, v) hm
    · simpa using List.any_eq_false.mp (Bool.eq_false_iff.mpr hv) (k, v) hm
  · cases h

theorem validKV_mode (v : CVal) (h : validKV "MODE" v = true) : v = .str "CLIENT" ∨ v = .str "SERVER" := by
  simp [validKV] at h; exact h

theorem validKV_transport (v : CVal) (h : validKV "TRANSPORT_TYPE" v = true) : v = .str "TCP" ∨ v = .str "SCTP" := by
  simp [validKV] at h; exact h

theorem validKV_ip (v : CVal) (h : validKV "LOCAL_NODE_IP_ADDRESS" v = true ∨ validKV "PEER_NODE_IP_ADDRESS" v = true) : ipOk v = true := by
  rcases h with h | h <;> simpa [validKV] using h

theorem validKV_timeout (v : CVal) (h : validKV "WATCHDOG_TIMEOUT" v = true) : ∃ n, v = .int n := by
  simp only [validKV] at h
  cases v <;> simp_all

/-- a complete configuration is accepted or rejected with the library's configuration error -/
theorem complete_accept_or_config_error (c : Cfg) (hc : complete c) :
    (∃ conn, convert c = .ok conn) ∨ convert c = .error .invalidKey ∨ convert c = .error .invalidValue := by
  -- every key of the mask is bound, so once the two checks are passed the tuple can be assembled
  have hall : ∀ k ∈ mask, ∃ v, get c k = some v := fun k hk => by
    obtain ⟨p, hp, rfl⟩ := List.mem_map.mp (hc.mem_iff.mpr hk)
    exact Option.isSome_iff_exists.mp (List.lookup_isSome_iff.mpr ⟨p, hp, beq_self_eq_true _⟩)
  simp only [mask, List.forall_mem_cons] at hall
  obtain ⟨⟨_, h1⟩, ⟨_, h2⟩, ⟨_, h3⟩, ⟨_, h4⟩, ⟨_, h5⟩, ⟨_, h6⟩, ⟨_, h7⟩, ⟨_, h8⟩, ⟨_, h9⟩, ⟨_, h10⟩, ⟨_, h11⟩, ⟨_, h12⟩, -⟩ := hall
  unfold convert
  split; · exact .inr (.inl rfl)
  split; · exact .inr (.inr rfl)
  exact .inl ⟨_, by rw [h1, h2, h3, h4, h5, h6, h7, h8, h9, h10, h11, h12]⟩

/-- YAML: one configuration per spec entry, in order; mode and transport case-normalised; TCP by
    default for each entry on its own -/
theorem yaml_map (specs : List Spec) :
    (fileToCfgs specs).length = specs.length ∧
    ∀ i (h : i < specs.length),
      get ((fileToCfgs specs)[i]'(by simpa [fileToCfgs] using h)) "MODE" = some (.str (upper specs[i].mode)) ∧
      get ((fileToCfgs specs)[i]'(by simpa [fileToCfgs] using h)) "TRANSPORT_TYPE" =
        some (.str (upper (specs[i].transport.getD "tcp"))) := by
  refine ⟨by simp [fileToCfgs], ?_⟩
  intro i h
  simp [fileToCfgs, specToCfg, Config.get, List.lookup]

-- non-vacuity: a complete valid configuration is accepted and reflected
def sample : Cfg :=
  [("MODE", .str "CLIENT"), ("TRANSPORT_TYPE", .str "TCP"), ("APPLICATIONS", .apps [⟨["vendor_id", "app_id"], true⟩] 1),
   ("LOCAL_NODE_HOSTNAME", .str "a"), ("LOCAL_NODE_REALM", .str "b"), ("LOCAL_NODE_IP_ADDRESS", .str "127.0.0.1"),
   ("LOCAL_NODE_PORT", .int 3868), ("PEER_NODE_HOSTNAME", .str "c"), ("PEER_NODE_REALM", .str "d"),
   ("PEER_NODE_IP_ADDRESS", .str "10.0.0.2"), ("PEER_NODE_PORT", .int 3868), ("WATCHDOG_TIMEOUT", .int 30)]

example : complete sample ∧ (∃ conn, convert sample = .ok conn ∧ conn.peerIp = .str "10.0.0.2") :=
  ⟨.refl _, _, rfl, rfl⟩

end BV.C19
