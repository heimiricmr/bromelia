import BromeliaVerif.Model.Teardown
import BromeliaVerif.Proofs.Lists
/-! C08 — every way a connection ends leaves the node closed, released and restartable.
The causes (local close after the DPA, DPR from the peer, peer disconnect, refused connection, …) all
end in the state machine's transition to Closed (C06: `goto`); this file is about what that
transition does to the flags and what the four loops do afterwards, under every interleaving. -/
namespace BV.C08
open BV.Teardown

/-- the transition to Closed releases the transport and raises every stop flag, whatever the state was -/
theorem teardown_down (s : St) : Down (teardown s) := by
  simp [Down, teardown]

/-! What a loop step does, read off the branches of `step` one by one: it touches no flag, it moves no other loop, it does
nothing to a loop that has exited, and with the node down it takes its own loop one step nearer to the exit. -/

/-- no loop step touches the flags: once down, always down -/
theorem step_down (s : St) (t : Th) (h : Down s) : Down (step s t) := by
  fun_cases step s t <;> exact h

theorem step_other (s : St) (t u : Th) (h : t ≠ u) : pos (step s t) u = pos s u := by
  fun_cases step s t <;> cases u <;> simp [pos] at h ⊢

theorem step_exited (s : St) (t : Th) (h : pos s t = .exited) : step s t = s := by
  fun_cases step s t <;> simp_all [pos]

/-- a loop that has exited stays exited; other loops' steps do not move it -/
theorem exited_stays (s : St) (t u : Th) (h : pos s u = .exited) : pos (step s t) u = .exited := by
  by_cases e : t = u
  · rw [e, step_exited s u h, h]
  · rw [step_other s t u e, h]

/-- progress measure: how many of its own steps a loop still needs -/
def need (s : St) (t : Th) : Nat := match pos s t with | .exited => 0 | .top => 1 | .body => 2

theorem need_le (s : St) (t : Th) : need s t ≤ 2 := by
  unfold need; split <;> decide

theorem need_eq_zero {s : St} {t : Th} : need s t = 0 ↔ pos s t = .exited := by
  unfold need; split <;> simp [*]

theorem need_step_self (s : St) (t : Th) (h : Down s) : need (step s t) t ≤ need s t - 1 := by
  obtain ⟨h1, h2, h3, h4, h5, -, -⟩ := h
  fun_cases step s t <;> simp_all [need, pos]

def runs (s : St) (sch : List Th) : St := sch.foldl step s

theorem runs_down (sch : List Th) (s : St) (h : Down s) : Down (runs s sch) :=
  foldl_inv step_down sch s h

/-- under EVERY interleaving, once the node is down, each time a loop is scheduled it gets nearer to its exit, and the
    steps of the other loops do not set it back -/
theorem need_after (sch : List Th) : ∀ s, Down s → ∀ u, need (runs s sch) u ≤ need s u - sch.count u := by
  induction sch with
  | nil => intro s _ u; simp [runs]
  | cons t rest ih =>
    intro s h u
    refine Nat.le_trans (ih (step s t) (step_down s t h) u) ?_
    by_cases e : t = u
    · have := need_step_self s u h
      rw [e, List.count_cons_self]; omega
    · rw [List.count_cons_of_ne e, need, need, step_other s t u e]; exact Nat.le_refl _

/-- ALL THREADS TERMINATE: under EVERY interleaving, once the node is down, a loop that is scheduled at
    least twice has exited (every blocking operation in the bodies is timed or released, so being
    scheduled is all a loop needs) -/
theorem exits_when_scheduled_twice (s : St) (h : Down s) (sch : List Th) (u : Th) (hu : 2 ≤ sch.count u) :
    pos (runs s sch) u = .exited :=
  need_eq_zero.1 (by have := need_after sch s h u; have := need_le s u; omega)

/-- each loop leaves within two of its own steps once the node is down -/
theorem exits_in_two (s : St) (t : Th) (h : Down s) : pos (step (step s t) t) t = .exited :=
  exits_when_scheduled_twice s h [t, t] t (by simp)

theorem all_threads_terminate (s : St) (h : Down s) (sch : List Th) (hfair : ∀ u, 2 ≤ sch.count u) :
    allExited (runs s sch) :=
  ⟨exits_when_scheduled_twice s h sch .psm (hfair _), exits_when_scheduled_twice s h sch .transport (hfair _),
    exits_when_scheduled_twice s h sch .worker (hfair _), exits_when_scheduled_twice s h sch .consumer (hfair _)⟩

/-- END TO END: from an established connection, under any interleaving before the closing tick, the
    closing tick itself, and any fair interleaving after it: the node is down (Closed, socket closed
    and unregistered, transport released), every loop has exited — in particular an application call
    blocked in `get_message()` has returned — and the association lock is free -/
theorem closes_released_terminated (before after : List Th) (hfair : ∀ u, 2 ≤ after.count u) :
    let s := runs (teardown (runs up before)) after
    Down s ∧ allExited s := by
  intro s
  have hd : Down (teardown (runs up before)) := teardown_down _
  exact ⟨runs_down after _ hd, all_threads_terminate _ hd after hfair⟩

/-- the receive worker never leaves with the association lock held -/
theorem worker_exit_releases_lock (s : St) (h : s.worker ≠ .exited) (hl : s.worker = .top → s.lockHeld = false)
    (he : (step s .worker).worker = .exited) : (step s .worker).lockHeld = false := by
  revert he
  fun_cases step s .worker <;> simp_all

/-- RESTARTABLE: `Diameter.start()` is guarded by the reported state being Closed, which is what the
    closing tick leaves; a start builds fresh association, state machine and transport objects (`up`
    after its own capabilities exchange), untouched by the flags of the connection that ended -/
theorem restart_is_fresh (s : St) (h : Down s) : s.psmRunning = false ∧ up.psmRunning = true ∧ ¬ Down up := by
  refine ⟨h.1, rfl, ?_⟩
  intro hd; exact absurd hd.1 (by simp [up])

-- non-vacuity: a concrete interleaving
example : (runs (teardown (runs up [.worker, .consumer, .transport])) [.worker, .psm, .consumer, .transport, .transport, .worker, .consumer, .psm]).psm = .exited ∧
    (runs (teardown (runs up [.worker, .consumer, .transport])) [.worker, .psm, .consumer, .transport, .transport, .worker, .consumer, .psm]).worker = .exited := by
  decide
example : (runs (teardown (runs up [.worker])) [.worker]).lockHeld = false := by decide

end BV.C08
