import BromeliaVerif.Proofs.Avp
/-! C01 — serialised messages are exactly the RFC 6733 encoding of their content.

Model: `Avp.dump`, `Header.dump`, `Msg.append`, `Msg.dump` follow the Python code path
(`Model/Avp.lean`, `Model/Msg.lean`); specification: `Spec.enc`, `Spec.encMsg` written from the RFC. -/
namespace BV.C01
open BV BV.Spec

/-- AVP level: the dump is the reference encoding of the same fields, for every AVP -/
theorem dump_eq_spec (a : Avp) : a.dump = encAvp a.code a.flags a.vendor a.data :=
  Avp.dump_eq_encAvp a

/-- declarative layout of the dump of a well-formed AVP: size a multiple of 4; bytes 0–3 the code,
    byte 4 the flags, bytes 5–7 the length of header plus data (padding excluded); a Vendor-ID field
    exactly when the V flag is set (header 12 instead of 8 bytes); then the data; then only zeros -/
theorem layout (a : Avp) (h : a.WF) :
    a.dump.length % 4 = 0 ∧
    fromBE (a.dump.take 4) = a.code ∧
    fromBE ((a.dump.drop 4).take 1) = a.flags ∧
    fromBE ((a.dump.drop 5).take 3) = a.hdrLen + a.data.length ∧
    (a.hdrLen = if vbit a.flags then 12 else 8) ∧
    (∀ v, a.vendor = some v → fromBE ((a.dump.drop 8).take 4) = v) ∧
    (a.dump.drop a.hdrLen).take a.data.length = a.data ∧
    a.dump.drop (a.hdrLen + a.data.length) = List.replicate (padLen a.data.length) 0 := by
  refine ⟨Avp.dump_length_mod4 a, ?_⟩
  obtain ⟨hc, hf, hv, hvend, hlen⟩ := h
  rw [Avp.dump_eq_encAvp]
  rcases a with ⟨c, f, v, d⟩
  -- with the Vendor-ID case fixed every offset is a literal (plus the data length): the fields in front
  -- of it are skipped one by one, the field is taken whole, and `fromBE` inverts `be` within its width
  cases v <;> simp [Avp.len, Avp.hdrLen] at hc hf hv hvend hlen <;>
    simp [encAvp, Avp.hdrLen, ← List.drop_drop, drop_append_of_length_le, List.take_left', fromBE_be, *]

/- what the library builds from a content tree: a Grouped AVP's data is the concatenation of its
   members' dumps (taken when they are appended) -/
mutual
  def realise : Content → Avp
    | .leaf c f v d => ⟨c, f, v, d⟩
    | .grouped c f v ks => ⟨c, f, v, realiseList ks⟩
  def realiseList : List Content → Bytes
    | [] => []
    | k :: ks => (realise k).dump ++ realiseList ks
end

/- Grouped AVPs, to any nesting depth: dump of the built AVP = reference encoding of the tree -/
mutual
  theorem grouped_eq_spec : ∀ t : Content, (realise t).dump = enc t
    | .leaf c f v d => by simp [realise, enc, Avp.dump_eq_encAvp]
    | .grouped c f v ks => by simp [realise, enc, Avp.dump_eq_encAvp, realiseList_eq ks]
  theorem realiseList_eq : ∀ ks : List Content, realiseList ks = encList ks
    | [] => by simp [realiseList, encList]
    | k :: ks => by simp [realiseList, encList, grouped_eq_spec k, realiseList_eq ks]
end

theorem realiseList_flatMap (ks : List Content) : (ks.map realise).flatMap Avp.dump = encList ks := by
  induction ks with
  | nil => rfl
  | cons k ks ih => simp [List.flatMap_cons, encList, grouped_eq_spec k, ih]

/-- length bookkeeping of `append`: after any sequence of appends (repeated AVPs included) the
    Message Length field is 20 plus the padded sizes of the AVPs, the AVPs are in order -/
theorem append_length_inv (h : Header) (as : List Avp) :
    let m := as.foldl Msg.append (Msg.new h)
    m.avps = as ∧ m.hdr.length = 20 + (as.flatMap Avp.dump).length ∧ m.hdr = { h with length := m.hdr.length } := by
  obtain ⟨h1, h2⟩ := Msg.foldl_append as (Msg.new h) rfl
  simp only [h1, h2]
  simp [Msg.new]

/-- a header with every field present, as the request / answer constructors build it -/
def hdrOf (hf : HeaderFields) : Header :=
  { version := hf.version, length := 20, flags := hf.flags, cmd := some hf.cmd,
    app := some hf.app, hbh := some hf.hbh, e2e := some hf.e2e }

/-- a message built through the public API: `DiameterMessage(header)` then `append` per AVP -/
def build (hf : HeaderFields) (as : List Avp) : Msg := as.foldl Msg.append (Msg.new (hdrOf hf))

/-- message level, any AVP sequence built through `append`: the dump is the reference header —
    carrying the fields as set and the total size, a multiple of 4 — then the dumps of the AVPs in order -/
theorem build_dump (hf : HeaderFields) (as : List Avp) :
    (build hf as).dump = encMsgBody hf (as.flatMap Avp.dump) ∧
    (build hf as).hdr.length = (build hf as).dump.length ∧ (build hf as).dump.length % 4 = 0 := by
  obtain ⟨h1, h2⟩ := Msg.foldl_append as (Msg.new (hdrOf hf)) rfl
  have hd : (build hf as).dump = encMsgBody hf (as.flatMap Avp.dump) := by
    rw [Msg.dump, build, h1, h2]; rfl
  have hl : (build hf as).dump.length = 20 + (as.flatMap Avp.dump).length := by
    rw [hd, encMsgBody, List.length_append, encHeader_length]
  have := flatMap_dump_mod4 as
  refine ⟨hd, ?_, by omega⟩
  rw [hl, build, h2]; rfl

/-- message level: for every header field value and every AVP sequence built through `append`, the
    dump is the reference encoding: 20-byte header carrying the fields as set, Message Length = total
    size (a multiple of 4), then the AVPs in order -/
theorem msg_eq_spec (hf : HeaderFields) (ks : List Content) :
    (build hf (ks.map realise)).dump = encMsg hf ks ∧
    (build hf (ks.map realise)).hdr.length = (build hf (ks.map realise)).dump.length ∧
    (build hf (ks.map realise)).dump.length % 4 = 0 := by
  have := build_dump hf (ks.map realise)
  rwa [realiseList_flatMap] at this

/-- a header field left `None` is omitted: the dump is shorter than 20 bytes (this is how the base
    `AbortSessionAnswer()` / `ReAuthAnswer()` defect arises; stated, not hidden) -/
theorem header_none_omitted (h : Header) (hn : h.app = none) (hc : h.cmd.isSome) (hh : h.hbh.isSome) (he : h.e2e.isSome) :
    h.dump.length = 16 := by
  unfold Header.dump Header.optBE
  cases hcm : h.cmd <;> cases hhb : h.hbh <;> cases hee : h.e2e <;> simp_all

-- non-vacuity
example : (Avp.mk 264 0x40 none [0x61, 0x62, 0x63, 0x64, 0x65]).WF ∧
    (Avp.mk 264 0x40 none [0x61, 0x62, 0x63, 0x64, 0x65]).dump =
      [0, 0, 1, 8, 0x40, 0, 0, 13, 0x61, 0x62, 0x63, 0x64, 0x65, 0, 0, 0] := by decide
example : (Avp.mk 1 0xc0 (some 10415) []).WF ∧ (Avp.mk 1 0xc0 (some 10415) []).dump.length = 12 := by decide

end BV.C01
