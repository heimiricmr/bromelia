import BromeliaVerif.Model.Psm
import BromeliaVerif.Proofs.Lists
/-! C07 — base-protocol answers echo the identifiers of the request they answer. Over the model of
the peer state machine (`Model/Psm.lean`): in every history (any order of inbound messages and local
events, both roles, reconnects on the same node object) the CEA/DWA/DPA written to the transport
are, in order, exactly the answers to the CER/DWR/DPR consumed in a state that answers them — same
command, the request's Hop-by-Hop and End-to-End identifiers — each written in the tick that
consumed its request (so before any later inbound message is processed). -/
namespace BV.C07
open BV BV.Psm

/-- the answer owed to a base request -/
def ansOf (m : PMsg) : Out :=
  match m.kind with
  | .cer => .cea m.hbh m.e2e
  | .dwr => .dwa m.hbh m.e2e
  | .dpr => .dpa m.hbh m.e2e
  | _ => .app m.id

def isAns : Out → Bool
  | .cea _ _ | .dwa _ _ | .dpa _ _ => true
  | _ => false

def answers (l : List Out) : List Out := l.filter isAns

@[simp] theorem answers_append (a b : List Out) : answers (a ++ b) = answers a ++ answers b := by
  simp [answers]
@[simp] theorem answers_nil : answers [] = [] := rfl

def isBaseReq (m : PMsg) : Bool := m.kind == .cer || m.kind == .dwr || m.kind == .dpr

/-- the answers written so far are those owed to the requests recorded as answered, in order; no answer waits in the send
    queue; only valid base requests are recorded as answered -/
structure Inv (n : Node) : Prop where
  emitted_eq : answers n.emitted = n.answered.map ansOf
  sendq_clean : answers n.sendq = []
  answered_reqs : ∀ m ∈ n.answered, isBaseReq m = true ∧ m.valid = true

theorem inv_init (r : Role) : Inv (init r) := by
  constructor <;> simp [init]

/-- `Inv` only looks at three fields -/
theorem same (n n' : Node) (he : n'.emitted = n.emitted) (hs : n'.sendq = n.sendq) (ha : n'.answered = n.answered)
    (h : Inv n) : Inv n' :=
  ⟨by rw [he, ha]; exact h.emitted_eq, by rw [hs]; exact h.sendq_clean, by rw [ha]; exact h.answered_reqs⟩

/-- a flush (optionally with one more non-answer message) -/
theorem flushed (n n' : Node) (extra : List Out) (hx : answers extra = [])
    (he : n'.emitted = n.emitted ++ n.sendq ++ extra) (hs : n'.sendq = []) (ha : n'.answered = n.answered)
    (h : Inv n) : Inv n' := by
  refine ⟨?_, by rw [hs]; rfl, by rw [ha]; exact h.answered_reqs⟩
  rw [he, ha, answers_append, answers_append, h.sendq_clean, hx]
  simpa using h.emitted_eq

/-- the one way an answer is written: it is the answer owed to `m`, flushed at once, and `m` is recorded -/
theorem answered (n n' : Node) (m : PMsg) (o : Out) (ho : o = ansOf m) (hk : isBaseReq m = true) (hv : m.valid = true)
    (he : n'.emitted = n.emitted ++ n.sendq ++ [o]) (hs : n'.sendq = []) (ha : n'.answered = n.answered ++ [m])
    (h : Inv n) : Inv n' := by
  have hans : isAns (ansOf m) = true := by
    simp only [isBaseReq, Bool.or_eq_true, beq_iff_eq] at hk
    rcases hk with (hk | hk) | hk <;> simp [ansOf, hk, isAns]
  subst ho
  refine ⟨?_, by rw [hs]; rfl, ?_⟩
  · rw [he, ha, answers_append, answers_append, h.sendq_clean]
    rw [show answers [ansOf m] = [ansOf m] by simp [answers, hans], h.emitted_eq]
    simp
  · intro x hx
    rw [ha] at hx
    simp only [List.mem_append, List.mem_singleton] at hx
    rcases hx with hx | rfl
    · exact h.answered_reqs x hx
    · exact ⟨hk, hv⟩

theorem goto_inv (n : Node) (a b : St) (h : Inv n) : Inv (goto n a b) := by
  unfold goto; split <;> exact same n _ rfl rfl rfl h

theorem queued (n n' : Node) (o : Out) (ho : isAns o = false) (he : n'.emitted = n.emitted)
    (hs : n'.sendq = n.sendq ++ [o]) (ha : n'.answered = n.answered) (h : Inv n) : Inv n' :=
  ⟨by rw [he, ha]; exact h.emitted_eq, by rw [hs, answers_append, h.sendq_clean]; simp [answers, ho],
    by rw [ha]; exact h.answered_reqs⟩

theorem trackEvents_inv (n : Node) (h : Inv n) : Inv (trackEvents n) := by
  fun_cases trackEvents n
  · exact queued n _ .dwr rfl rfl rfl rfl h
  · exact h
  · exact h

/-- a valid base request at the head of the queue is answered: by its own answer, at once -/
theorem answer_inv (n : Node) (m : PMsg) (rest : List PMsg) (o : Out) (ho : o = ansOf m) (hk : isBaseReq m = true)
    (hv : m.valid = true) (h : Inv n) : Inv (answer { n with recvq := rest } m o) :=
  answered n _ m o ho hk hv rfl rfl rfl h

theorem runClosed_inv (n : Node) (h : Inv n) : Inv (runClosed n).1 := by
  fun_cases runClosed n
  case case3 m rest _ _ hv =>
    simp only [Bool.and_eq_true, beq_iff_eq] at hv
    exact same (answer { n with recvq := rest } m (.cea m.hbh m.e2e)) _ rfl rfl rfl
      (answer_inv n m rest _ (by simp [ansOf, hv.1]) (by simp [isBaseReq, hv.1]) hv.2 h)
  all_goals exact same n _ rfl rfl rfl h

theorem runWaitConnAck_inv (n : Node) (h : Inv n) : Inv (runWaitConnAck n).1 := by
  have h1 : Inv (connAttempt n).1 := by
    fun_cases connAttempt n
    · exact flushed n _ [.cer] rfl rfl rfl rfl h
    all_goals exact h
  unfold runWaitConnAck
  fun_cases connRecv (connAttempt n) <;> exact same (connAttempt n).1 _ rfl rfl rfl h1

theorem runWaitICEA_inv (n : Node) (h : Inv n) : Inv (runWaitICEA n).1 := by
  fun_cases runWaitICEA n <;> exact same n _ rfl rfl rfl h

theorem openRecv_inv (n : Node) (m : PMsg) (rest : List PMsg) (h : Inv n) : Inv (openRecv { n with recvq := rest } m).1 := by
  fun_cases openRecv _ m
  case case1 hk hv | case6 hk hv =>
    exact answer_inv n m rest _ (by simp [ansOf, hk]) (by simp [isBaseReq, hk]) hv h
  case case5 hk =>
    split
    · rename_i hv
      exact same (answer { n with recvq := rest } m (.dpa m.hbh m.e2e)) _ rfl rfl rfl
        (answer_inv n m rest _ (by simp [ansOf, hk]) (by simp [isBaseReq, hk]) hv h)
    · exact same n _ rfl rfl rfl h
  all_goals exact same n _ rfl rfl rfl h

theorem runOpen_inv (n : Node) (h : Inv n) : Inv (runOpen n).1 := by
  have ht := trackEvents_inv n h
  fun_cases runOpen n
  · exact ht
  · exact flushed (trackEvents n) _ [.dpr] rfl rfl rfl rfl ht
  · exact flushed (trackEvents n) _ [] rfl (List.append_nil _).symm rfl rfl ht
  · exact ht
  · exact openRecv_inv _ _ _ ht

theorem runClosing_inv (n : Node) (h : Inv n) : Inv (runClosing n).1 := by
  fun_cases runClosing n <;> exact same n _ rfl rfl rfl h

theorem runState_inv (n : Node) (h : Inv n) : Inv (runState n).1 := by
  unfold runState
  cases n.st
  · exact runClosed_inv n h
  · exact runWaitConnAck_inv n h
  · exact runWaitICEA_inv n h
  · exact runOpen_inv n h
  · exact h
  · exact h
  · exact runClosing_inv n h

theorem tick_inv (n : Node) (h : Inv n) : Inv (tick n) := by
  unfold tick
  split
  · exact h
  · exact goto_inv _ _ _ (runState_inv n h)

theorem apply_inv (n : Node) (e : Ev) (h : Inv n) : Inv (apply n e) := by
  cases e with
  | tick => exact tick_inv n h
  | submit id =>
    simp only [apply]
    split
    · exact queued n _ (.app id) rfl rfl rfl rfl h
    · exact h
  | restart =>
    simp only [apply]
    split
    · exact ⟨h.emitted_eq, rfl, h.answered_reqs⟩
    · exact h
  | _ => exact same n _ rfl rfl rfl h

theorem run_inv (role : Role) (evs : List Ev) : Inv (run role evs) :=
  foldl_inv apply_inv evs _ (inv_init role)

/-- MAIN THEOREM, every history, both roles, across reconnects on the same node object: the
    CEA/DWA/DPA written to the transport are, in order, exactly the answers owed to the valid
    CER/DWR/DPR that were consumed in an answering state — one answer per request, none without a
    request, each with its request's command and identifiers -/
theorem answers_match_requests (role : Role) (evs : List Ev) :
    answers (run role evs).emitted = (run role evs).answered.map ansOf ∧
    ∀ m ∈ (run role evs).answered, isBaseReq m = true ∧ m.valid = true :=
  ⟨(run_inv role evs).emitted_eq, (run_inv role evs).answered_reqs⟩

/-- the answer is written in the step that consumes the request: nothing that is an answer is ever
    parked in the send queue (every history), so whenever a request has been recorded as answered its
    answer is already on the transport — before any later inbound message is processed -/
theorem no_answer_waits (role : Role) (evs : List Ev) : answers (run role evs).sendq = [] :=
  (run_inv role evs).sendq_clean

/-- an answer never carries identifiers of a different request: position-wise equality -/
theorem kth_answer (role : Role) (evs : List Ev) (k : Nat) (m : PMsg)
    (h : (run role evs).answered[k]? = some m) :
    (answers (run role evs).emitted)[k]? = some (ansOf m) := by
  rw [(answers_match_requests role evs).1]
  simp [h]

/-! non-vacuity: back-to-back requests with different identifiers, and a reconnect -/
def cer (h e : Nat) : PMsg := { kind := .cer, valid := true, okAddr := true, hbh := h, e2e := e, id := 0 }
def dwr (h e : Nat) : PMsg := { kind := .dwr, valid := true, okAddr := true, hbh := h, e2e := e, id := 0 }
def dpr (h e : Nat) : PMsg := { kind := .dpr, valid := true, okAddr := true, hbh := h, e2e := e, id := 0 }

example : (run .server [.inject (cer 1 2), .inject (dwr 3 4), .inject (dwr 5 6), .tick, .tick, .tick]).emitted
    = [.cea 1 2, .dwa 3 4, .dwa 5 6] := by decide
example : (run .server [.inject (cer 1 2), .tick, .inject (dpr 4294967295 0), .tick, .restart, .inject (cer 8 9), .tick]).emitted
    = [.cea 1 2, .dpa 4294967295 0, .cea 8 9] := by decide

end BV.C07
