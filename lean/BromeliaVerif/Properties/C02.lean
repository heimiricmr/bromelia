import BromeliaVerif.Proofs.DecodeMsg
import BromeliaVerif.Gen.Dictionary
/-! C02 — decoding preserves every field on the wire and re-encodes byte-identically.

Model: `Parse.loadMsgs` / `Parse.loadAvps` (`Model/Parse.lean`) over the regenerated dictionary
`Gen.dictionary`; wire images come from the reference encoder `Spec.encMsg`. The theorems are stated
for an arbitrary dictionary and then instantiated.

Known finding C02-known-avp-reflagged: the decoder rebuilds known AVPs through their class, which
resets the flag byte to the class default. The full-strength statement (`redump_identical`) is proved
under the guard `faithful` (every known AVP carries its default flags); `load_encode` and
`redump_normalised` state exactly what happens outside the guard. -/
namespace BV.C02
open BV BV.Dict BV.Parse BV.Spec

/-- every well-formed stream (one or more concatenated messages) decodes to exactly one object per
    message, in order, with the header fields as on the wire and the AVPs observed by `obs` -/
theorem load_encode (ms : List WireMsg) (h : ∀ m ∈ ms, goodMsg Gen.dictionary m) :
    loadMsgs Gen.dictionary (ms.flatMap WireMsg.enc) = .ok (ms.map (obsMsg Gen.dictionary)) :=
  loadMsgs_enc Gen.dictionary ms h

/-- AVP level, any dictionary: the AVPs of a well-formed body, in order, to any nesting depth -/
theorem load_encode_avps (dict : List Entry) (ts : List Content) (h : goodList dict ts = true) :
    loadAvps dict (encList ts) = .ok (obsList dict ts) := load_enc_list dict ts h

/-- what `obs` preserves: code, Vendor-ID and (for non-Grouped content) data are those on the wire; an
    unknown (vendor, code) pair stays a generic AVP with its wire flags; a known pair is materialised
    as its dictionary class (with the class's default flags — the known finding) -/
theorem fields_preserved (dict : List Entry) (c f : Nat) (v : Option Nat) (d : Bytes) :
    let o := obs dict (.leaf c f v d)
    o.avp.code = c ∧ o.avp.vendor = v ∧ o.avp.data = d ∧
    (dispatch dict (key c v) = none → o.avp.flags = f ∧ o.cls = none) ∧
    (∀ e, dispatch dict (key c v) = some e → o.cls = some e.name ∧ o.avp.flags = e.flags) := by
  simp only [obs]
  cases hd : dispatch dict (key c v) with
  | none => simp [LAvp.avp, LAvp.cls]
  | some e =>
    obtain ⟨hc, hv⟩ : e.code = c ∧ e.vendor = v := (dispatch_some hd).2
    simp [LAvp.avp, LAvp.cls, hc, hv]

/-- members of a known Grouped AVP are decoded recursively, one object per member, in order -/
theorem grouped_members (dict : List Entry) (c f : Nat) (v : Option Nat) (ks : List Content) (e : Entry)
    (hd : dispatch dict (key c v) = some e) (hk : e.kind = .grouped) :
    (obs dict (.grouped c f v ks)).kids = obsList dict ks ∧ (obs dict (.grouped c f v ks)).cls = some e.name := by
  simp [obs, hd, hk, LAvp.kids, LAvp.cls]

theorem obsList_length (dict : List Entry) (ts : List Content) : (obsList dict ts).length = ts.length := by
  induction ts with
  | nil => rfl
  | cons t ts ih => simp [obsList, ih]

/-- re-serialisation of a decoded message = the original header followed by the encoding of the
    flag-normalised content -/
theorem redump_normalised (dict : List Entry) (m : WireMsg) :
    (obsMsg dict m).dump = encHeader m.hf (20 + (encList m.body).length) ++ encList (normList dict m.body) :=
  obsMsg_redump dict m

/-- FULL STATEMENT under the guard: when every known AVP carries its class's default flag byte,
    re-serialising each decoded message reproduces its original bytes -/
theorem redump_identical (dict : List Entry) (m : WireMsg) (hf : faithfulList dict m.body = true) :
    (obsMsg dict m).dump = m.enc := by
  rw [redump_normalised, normList_faithful dict m.body hf]; rfl

theorem stream_redump_identical (dict : List Entry) (ms : List WireMsg)
    (hf : ∀ m ∈ ms, faithfulList dict m.body = true) :
    (ms.map (obsMsg dict)).flatMap LMsg.dump = ms.flatMap WireMsg.enc := by
  induction ms with
  | nil => rfl
  | cons m ms ih =>
    simp only [List.map_cons, List.flatMap_cons]
    rw [redump_identical dict m (hf m (by simp)), ih (fun x hx => hf x (by simp [hx]))]

/-- dispatch is total and functional: a (vendor, code) pair gets the unique table entry filed under
    it (with agreeing vendor presence), or stays generic -/
theorem dispatch_total (dict : List Entry) (raw : Avp) :
    dispatch dict raw = none ∨ ∃ e, dispatch dict raw = some e ∧ e ∈ dict ∧ e.code = raw.code ∧ e.vendor = raw.vendor := by
  cases hd : dispatch dict raw with
  | none => exact .inl rfl
  | some e => exact .inr ⟨e, rfl, dispatch_some hd⟩

-- non-vacuity: a two-message stream over the real dictionary that satisfies every hypothesis
def sample : List WireMsg :=
  [ { hf := ⟨1, 0x80, 257, 0, 1, 2⟩,
      body := [.leaf 264 0x40 none [0x68, 0x6f, 0x73, 0x74], .leaf 999 0x80 (some 10415) [1, 2, 3],
               .grouped 260 0x40 none [.leaf 266 0x40 none [0, 0, 0x28, 0xaf]]] },
    { hf := ⟨1, 0, 280, 0, 7, 8⟩, body := [] } ]

set_option maxRecDepth 4000 in
example : (∀ m ∈ sample, goodList Gen.dictionary m.body = true ∧ faithfulList Gen.dictionary m.body = true) := by
  decide +kernel

/-- negation witness of the full statement outside the guard (the known finding): Origin-Host sent
    with flag byte 00 is decoded with flag byte 40 -/
theorem reflag_witness :
    (obs Gen.dictionary (.leaf 264 0 none [0x68])).avp.flags = 0x40 ∧
    faithful Gen.dictionary (.leaf 264 0 none [0x68]) = false := by
  decide +kernel

end BV.C02
