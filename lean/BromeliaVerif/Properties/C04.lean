import BromeliaVerif.Proofs.Framing
import BromeliaVerif.Proofs.Lists
/-! C04 — inbound messages are delivered once, in order, however the stream is fragmented.
Over the model of the inbound pipeline (`Model/Inbound.lean`): every sequence of well-formed
messages, every segmentation of their bytes by the network (any chunk sizes, down to one byte, cuts
inside headers) and every interleaving of reader, receive worker, state machine and consumer. -/
namespace BV.C04
open BV BV.Inbound

/-- FRAMING: for every sequence of well-formed messages and EVERY cut of their concatenation (wherever the network or
    the reader made it), the split of what is in front of the cut yields exactly the messages that are complete
    there, in order, and keeps the bytes of the partial one -/
theorem split_prefix {ms : List Bytes} (hwf : ∀ m ∈ ms, WellFormed m) {p w : Bytes} (h : p ++ w = ms.flatten) {f : Nat}
    (hf : p.length ≤ f) :
    ∃ j q, splitStream f p = (ms.take j, q) ∧ (ms.take j).flatten ++ q = p ∧ q ++ w = (ms.drop j).flatten ∧
      ∀ m, (ms.drop j).head? = some m → q.length < m.length := by
  obtain ⟨j, q, rfl, hq, hlt⟩ := flatten_eq_append h
  refine ⟨j, q, splitStream_flatten (fun m hm => hwf m (List.mem_of_mem_take hm)) (fun f => ?_) hf, rfl, hq, hlt⟩
  -- `q` is empty or the beginning of the next message
  cases hd : ms.drop j with
  | nil =>
    rw [hd] at hq
    cases (List.append_eq_nil_iff.1 hq).1
    exact splitStream_nil f
  | cons m rest =>
    rw [hd] at hq hlt
    exact splitStream_incomplete (hwf m (List.mem_of_mem_drop (hd ▸ List.mem_cons_self)))
      (List.prefix_of_prefix_length_le ⟨w, hq⟩ (List.prefix_append m _) (Nat.le_of_lt (hlt m rfl))) (hlt m rfl) f

/-! ### the pipeline: every segmentation, every interleaving -/

/-- invariant: the messages parsed so far (taken by the state machine, or still queued) are an initial
    segment of what the peer sent, and the bytes still in flight (reassembly carry, transport buffer,
    network) are exactly the encoding of the rest; deliveries are the application messages among those
    taken, in order -/
structure PInv (isApp : Bytes → Bool) (ms : List Bytes) (s : St) : Prop where
  framed : ∃ j, s.ticked ++ s.queue = ms.take j ∧ s.carry ++ s.recvStream ++ s.wire = (ms.drop j).flatten
  deliveries : s.delivered ++ s.deliverQ = s.ticked.filter isApp
  base : s.consumed = s.ticked.filter (fun m => !isApp m)

theorem pinv_init (isApp : Bytes → Bool) (ms : List Bytes) : PInv isApp ms (init ms.flatten) :=
  ⟨⟨0, by simp [init], by simp [init]⟩, by simp [init], by simp [init]⟩

theorem step_pinv (isApp : Bytes → Bool) (ms : List Bytes) (hwf : ∀ m ∈ ms, WellFormed m) (s : St) (a : Act)
    (h : PInv isApp ms s) : PInv isApp ms (step isApp s a) := by
  obtain ⟨⟨j, h1, h2⟩, hd, hb⟩ := h
  cases a with
  | chunk n => exact ⟨⟨j, h1, by simp [step, ← h2]⟩, hd, hb⟩
  | worker =>
    obtain ⟨k, q, e, -, e2, -⟩ :=
      split_prefix (fun m hm => hwf m (List.mem_of_mem_drop hm)) h2 (Nat.le_refl (s.carry ++ s.recvStream).length)
    refine ⟨⟨j + k, ?_, ?_⟩, hd, hb⟩
    · simp only [step, e]; rw [← List.append_assoc, h1, List.take_add]
    · rw [List.drop_drop] at e2; simpa only [step, e, List.append_nil] using e2
  | tick =>
    simp only [step]
    split
    · exact ⟨⟨j, h1, h2⟩, hd, hb⟩
    next m rest hq =>
      have h1' : s.ticked ++ [m] ++ rest = ms.take j := by simpa [hq] using h1
      split
      next ha => exact ⟨⟨j, h1', h2⟩, by simp [List.filter_append, ha, ← hd], by simp [List.filter_append, ha, hb]⟩
      next ha => exact ⟨⟨j, h1', h2⟩, by simp [List.filter_append, ha, hd], by simp [List.filter_append, ha, hb]⟩
  | get =>
    simp only [step]
    split
    · exact ⟨⟨j, h1, h2⟩, hd, hb⟩
    next m rest hq => exact ⟨⟨j, h1, h2⟩, by simp [← hd, hq], hb⟩

theorem run_pinv (isApp : Bytes → Bool) (ms : List Bytes) (hwf : ∀ m ∈ ms, WellFormed m) (as : List Act) :
    PInv isApp ms (run isApp ms.flatten as) :=
  foldl_inv (step_pinv isApp ms hwf) as _ (pinv_init isApp ms)

/-- ONCE, COMPLETE, IN ORDER: for every message sequence, every segmentation and every interleaving,
    what the application has received is an initial segment of the application messages sent, and
    what the state machine has consumed is an initial segment of the base-protocol messages sent -/
theorem delivered_in_order (isApp : Bytes → Bool) (ms : List Bytes) (hwf : ∀ m ∈ ms, WellFormed m) (as : List Act) :
    (run isApp ms.flatten as).delivered <+: ms.filter isApp ∧
    (run isApp ms.flatten as).consumed <+: ms.filter (fun m => !isApp m) := by
  obtain ⟨⟨j, h1, _⟩, hd, hb⟩ := run_pinv isApp ms hwf as
  have ht : (run isApp ms.flatten as).ticked <+: ms :=
    (List.prefix_append _ _).trans (h1 ▸ List.take_prefix j ms)
  constructor
  · exact List.IsPrefix.trans ⟨_, hd⟩ (ht.filter isApp)
  · rw [hb]; exact ht.filter _

/-- NOTHING LOST: once the network has delivered everything, one more worker iteration leaves no
    byte behind and every message sent has been parsed, in order -/
theorem all_parsed_after_drain (isApp : Bytes → Bool) (ms : List Bytes) (hwf : ∀ m ∈ ms, WellFormed m) (as : List Act)
    (hw : (run isApp ms.flatten as).wire = []) :
    let s := step isApp (run isApp ms.flatten as) .worker
    s.carry = [] ∧ s.recvStream = [] ∧ s.ticked ++ s.queue = ms := by
  intro s
  obtain ⟨⟨j, h1, h2⟩, _, _⟩ := run_pinv isApp ms hwf as
  -- what the worker takes is the encoding of all the messages not yet parsed
  have hdata : (run isApp ms.flatten as).carry ++ (run isApp ms.flatten as).recvStream = (ms.drop j).flatten ++ [] := by
    simpa [hw] using h2
  have hr : splitStream _ ((ms.drop j).flatten ++ []) = (ms.drop j, []) :=
    splitStream_flatten (fun m hm => hwf m (List.mem_of_mem_drop hm)) splitStream_nil (Nat.le_refl _)
  simp only [s, step, hdata, hr, true_and]
  rw [← List.append_assoc, h1, List.take_append_drop]

/-- … and when the queues have been emptied the application has received exactly the application messages sent -/
theorem all_delivered (isApp : Bytes → Bool) (ms : List Bytes) (hwf : ∀ m ∈ ms, WellFormed m) (as : List Act)
    (hq : (run isApp ms.flatten as).queue = []) (hd : (run isApp ms.flatten as).deliverQ = [])
    (hall : (run isApp ms.flatten as).ticked = ms) :
    (run isApp ms.flatten as).delivered = ms.filter isApp ∧ (run isApp ms.flatten as).consumed = ms.filter (fun m => !isApp m) := by
  obtain ⟨_, h2, h3⟩ := run_pinv isApp ms hwf as
  rw [hd, List.append_nil, hall] at h2
  rw [hall] at h3
  exact ⟨h2, h3⟩

-- non-vacuity: two 20-byte messages (length field 20), delivered one byte at a time
def hdr (tag : UInt8) : Bytes := [1, 0, 0, 20, tag, 0, 0, 0, 0, 0, 0, 0, 0, 0, 0, 0, 0, 0, 0, 0]
example : WellFormed (hdr 7) := ⟨by decide, by decide⟩
example : (run (fun m => m[4]? == some 9) (hdr 7 ++ hdr 9) ((List.replicate 40 [Act.chunk 1, .worker]).flatten ++ [.tick, .tick, .get])).delivered
    = [hdr 9] := by decide

end BV.C04
