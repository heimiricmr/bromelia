import BromeliaVerif.Model.Command
import BromeliaVerif.Proofs.Lists
import BromeliaVerif.Gen.Commands
import BromeliaVerif.Gen.Dictionary
import BromeliaVerif.Properties.C01
/-! C09 — typed command classes build exactly the command they name.

Generic theorems about the `_load` loop (any table row, any arguments) and table facts decided by the
kernel over `Gen.commands`, regenerated from `bromelia/lib/*/messages.py` on every check. -/
namespace BV.C09
open BV BV.Dict BV.Command

/-- the AVP contributed by one argument (`none`: skipped) when its step does not raise -/
def produced (dict : List Entry) (row : Row) (a : Arg) : Option Avp :=
  match loadOne dict row a with
  | .ok r => r
  | .error _ => none

/-- order and content: when `_load` succeeds, the AVPs are exactly those produced by the arguments,
    in the order of the arguments (declared parameters first, keyword extras last) -/
theorem load_order (dict : List Entry) (row : Row) : ∀ (args : List Arg) (as : List Avp),
    loadArgs dict row args = .ok as →
    as = args.filterMap (produced dict row) ∧ ∀ a ∈ args, ∃ r, loadOne dict row a = .ok r
  | [], as, h => by simp [loadArgs] at h; subst h; simp
  | a :: rest, as, h => by
    simp only [loadArgs] at h
    split at h
    · cases h
    · rename_i r hr
      split at h
      · cases h
      · rename_i more hm
        cases h
        obtain ⟨ih1, ih2⟩ := load_order dict row rest more hm
        refine ⟨?_, List.forall_mem_cons.mpr ⟨⟨r, hr⟩, ih2⟩⟩
        cases r <;> simp [produced, hr, ih1]

/-- extras last: the AVPs of `params ++ extras` are those of the parameters followed by those of the extras -/
theorem extras_last (dict : List Entry) (row : Row) (ps extras : List Arg) (as : List Avp)
    (h : loadArgs dict row (ps ++ extras) = .ok as) :
    as = ps.filterMap (produced dict row) ++ extras.filterMap (produced dict row) := by
  rw [(load_order dict row _ _ h).1, List.filterMap_append]

/-- a mandatory argument that is `None` makes the constructor raise (library error), whatever else is given -/
theorem missing_mandatory_rejected (dict : List Entry) (row : Row) : ∀ (args : List Arg) (a : Arg) (c : Nat),
    a ∈ args → row.mandatory.lookup a.key = some c → a.val = none → ∃ e, loadArgs dict row args = .error e
  | args, a, c, hmem, hk, hv => by
    cases h : loadArgs dict row args with
    | error e => exact ⟨e, rfl⟩
    | ok as =>
      -- a successful `_load` has taken every step, this one included
      obtain ⟨r, hr⟩ := (load_order dict row args as h).2 a hmem
      simp [loadOne, hk, hv] at hr

/-- each argument value is carried by an AVP of the dictionary class the key maps to: its code, vendor
    and default flags -/
theorem arg_carried_by_class (dict : List Entry) (c : Nat) (v : ArgVal) (x : Avp) (h : buildArg dict c v = .ok x) :
    ∃ e ∈ dict, e.nameKey = c ∧ x.code = e.code ∧ x.vendor = e.vendor ∧ x.flags = e.flags := by
  unfold buildArg at h
  split at h
  · cases h
  · rename_i e he
    have hm := List.mem_of_find?_eq_some he
    have hk : e.nameKey = c := by simpa using List.find?_some he
    refine ⟨e, hm, hk, ?_⟩
    -- every arm that succeeds returns `instantiate e _`, which carries code, vendor and flags of the class
    cases v with
    | py pv =>
      simp only at h
      split at h
      · split at h <;> cases h
      · split at h
        · cases h; simp [instantiate]
        · cases h
        · cases h
    | avpList ms =>
      simp only at h
      split at h
      · split at h
        · cases h; simp [instantiate]
        · cases h
        · cases h
      · cases h
    | avpObj a => cases h

/-- mandatory exactly once (argument level): with distinct argument keys, a successful `_load`
    produced exactly one AVP for every mandatory key that is a parameter -/
theorem mandatory_once (dict : List Entry) (row : Row) (args : List Arg) (as : List Avp)
    (h : loadArgs dict row args = .ok as) (hnd : (args.map Arg.key).Nodup) (k : String) (c : Nat)
    (hk : row.mandatory.lookup k = some c) (hin : k ∈ args.map Arg.key) :
    ∃ a ∈ args, a.key = k ∧ (∃ x, produced dict row a = some x) ∧ ∀ b ∈ args, b.key = k → b = a := by
  obtain ⟨a, ha, hak⟩ := List.mem_map.mp hin
  refine ⟨a, ha, hak, ?_, ?_⟩
  · obtain ⟨r, hr⟩ := (load_order dict row args as h).2 a ha
    unfold loadOne at hr
    rw [hak, hk] at hr
    cases hv : a.val with
    | none => simp [hv] at hr
    | some v =>
      simp only [hv] at hr
      cases hb : buildArg dict c v with
      | error e => simp [hb, Except.map] at hr
      | ok x =>
        refine ⟨x, ?_⟩
        simp [produced, loadOne, hak, hk, hv, hb, Except.map]
  · intro b hb hbk
    exact eq_of_nodup_map hnd hb ha (hbk.trans hak.symm)

/-- command flags: R exactly for request classes; P exactly when the Application-ID is not 0 -/
theorem flags_rule (isReq : Bool) (app : Option Nat) :
    ((flagsOf isReq app) / 128 % 2 = 1 ↔ isReq = true) ∧ ((flagsOf isReq app) / 64 % 2 = 1 ↔ app ≠ some 0) ∧
    (flagsOf isReq app) % 64 = 0 := by
  unfold flagsOf
  cases isReq <;> by_cases h : app = some 0 <;> simp [h]

/-- the built message carries the class's command code, its Application-ID and the flags that go
    with them; its Message Length counts a 20-byte header whether or not the Application-ID is
    serialised -/
theorem buildMsg_header (dict : List Entry) (row : Row) (app : Option Nat) (hbh e2e : Nat) (args : List Arg)
    (m : Msg) (h : buildMsg dict row app hbh e2e args = .ok m) :
    m.hdr.cmd = some row.cmd ∧ m.hdr.app = app ∧ m.hdr.flags = flagsOf row.isRequest app ∧
    m.hdr.length + (Header.optBE 4 app).length = m.dump.length + 4 := by
  unfold buildMsg at h
  cases hl : loadArgs dict row args with
  | error e => simp [hl, Except.map] at h
  | ok as =>
    simp only [hl, Except.map, Except.ok.injEq] at h
    subst h
    obtain ⟨h1, h2, h3⟩ := BV.C01.append_length_inv (headerOf row app hbh e2e) as
    generalize as.foldl Msg.append (Msg.new (headerOf row app hbh e2e)) = m at h1 h2 h3
    rw [h3]
    refine ⟨rfl, rfl, rfl, ?_⟩
    show m.hdr.length + _ = (m.hdr.dump ++ m.avps.flatMap Avp.dump).length + 4
    rw [h1, h3]
    simp [Header.dump, Header.optBE, headerOf, h2]; omega

/-- the built message carries the class's command code and Application-ID, and when the
    Application-ID is set its Message Length equals its serialised size -/
theorem built_header (dict : List Entry) (row : Row) (a hbh e2e : Nat) (args : List Arg) (m : Msg)
    (h : buildMsg dict row (some a) hbh e2e args = .ok m) :
    m.hdr.cmd = some row.cmd ∧ m.hdr.app = some a ∧ m.hdr.flags = flagsOf row.isRequest (some a) ∧
    m.hdr.length = m.dump.length := by
  obtain ⟨h1, h2, h3, h4⟩ := buildMsg_header dict row _ hbh e2e args m h
  exact ⟨h1, h2, h3, by simpa [Header.optBE] using h4⟩

/-- known finding C09-base-asa-raa-no-application-id: a class that leaves the Application-ID `None`
    serialises a 16-byte header, so the Message Length field exceeds the size by 4 -/
theorem no_app_header_short (dict : List Entry) (row : Row) (hbh e2e : Nat) (args : List Arg) (m : Msg)
    (h : buildMsg dict row none hbh e2e args = .ok m) : m.hdr.length = m.dump.length + 4 :=
  (buildMsg_header dict row _ hbh e2e args m h).2.2.2

/-! ### table facts over the regenerated table -/

theorem all_modelled : Gen.commands.all (·.modelled) = true := by decide +kernel

/-- every mandatory / optional key maps to an existing dictionary class, keys are distinct, parameter
    names are distinct -/
theorem keys_resolve :
    Gen.commands.all (fun r =>
      (r.mandatory ++ r.optionals).all (fun kc => Gen.dictionary.any (fun e => e.nameKey == kc.2)) &&
      decide ((r.mandatory.map (·.1)).Nodup) && decide ((r.optionals.map (·.1)).Nodup) && decide (r.params.Nodup)) = true := by
  decide +kernel

/-- classes whose `mandatory` table names a key that is not a constructor parameter (known finding
    C09-s6b-aaa-destination-realm) -/
def mandatoryNotParam : List String := ["etsi_3gpp_s6b.AAAnswer"]

theorem mandatory_are_params_partial :
    Gen.commands.all (fun r => mandatoryNotParam.contains r.name || r.mandatory.all (fun kc => r.params.contains kc.1)) = true := by
  decide +kernel

/-- a mandatory parameter without default is exactly a parameter whose default is `None`: omitting it
    is rejected (`missing_mandatory_rejected`) -/
theorem app_param_is_param :
    Gen.commands.all (fun r => match r.appParam with | some p => r.params.contains p && r.app.isNone | none => true) = true := by
  decide +kernel

/-- a request class and its answer class agree on command code and on the fixed Application-ID
    (classes whose Application-ID is an argument or left open are exempt) -/
theorem partners_agree :
    Gen.commands.all (fun r => match r.partner with
      | none => true
      | some i => match Gen.commands[i]? with
        | none => false
        | some p => p.cmd == r.cmd && p.isRequest != r.isRequest &&
            (r.app.isNone || p.app.isNone || r.app == p.app)) = true := by
  decide +kernel

/-- command code, Application-ID rule, R flag and the set of mandatory keys of every published class
    equal the reviewed snapshot (optionals may grow, new classes are unconstrained) -/
theorem commands_match_reference :
    Gen.commandsRef.all (fun ref => Gen.commands.any (fun r =>
      r.nameKey == ref.nameKey && r.isRequest == ref.isRequest && r.cmd == ref.cmd && r.app == ref.app &&
      r.appParam == ref.appParam && ref.mandatoryKeys.all (fun k => (r.mandatory.map (·.1)).contains k) &&
      r.mandatory.all (fun kc => ref.mandatoryKeys.contains kc.1))) = true := by
  decide +kernel

/-- every argument key of every published class is carried by the AVP (Vendor-ID, code) the reviewed
    snapshot lists for that key: the class a key is mapped to in the `mandatory` / `optionals` table
    has that vendor and code in the dictionary (keys the snapshot does not know are unconstrained) -/
theorem keys_carry_reference_avp :
    Gen.commandsRef.all (fun ref => Gen.commands.all (fun r =>
      r.nameKey != ref.nameKey ||
      (r.mandatory ++ r.optionals).all (fun kc =>
        match ref.keyAvps.find? (fun ka => ka.1 == kc.1) with
        | none => true
        | some ka => Gen.dictionary.any (fun e => e.nameKey == kc.2 && e.vendor.getD 0 == ka.2.1 && e.code == ka.2.2)))) = true := by
  decide +kernel

-- non-vacuity: the flag rule on the three shapes that occur
example : flagsOf true (some 16777251) = 0xc0 ∧ flagsOf false (some 0) = 0 ∧ flagsOf false none = 0x40 := by decide

end BV.C09
