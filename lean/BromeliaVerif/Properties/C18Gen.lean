import BromeliaVerif.Gen.TbcdGen
import BromeliaVerif.Properties.C18
/-! Tie (a) for the TBCD loops (C18): `Gen/TbcdGen.lean` is regenerated from `bromelia/utils.py` on every run
(`harness/gen_tbcd.py`, a shape-checking translation carrying the code's constants: slice width, step, filler character, the
index kept at the filler, the special characters) as index loops with fuel; the theorems below are re-checked against it. -/
namespace BV.C18Gen
open BV.Tbcd BV.Gen.Tbcd

def plain (s : List Char) : Prop := ∀ c ∈ s, c ∉ specialChars

theorem isSpecial_false (bits s : List Char) (hs : plain s) (hb : ∀ c ∈ bits, c ∈ s) : isSpecial bits = false := by
  unfold isSpecial
  rw [List.any_eq_false]
  intro c hc
  simp only [List.contains_eq_mem, decide_eq_true_eq]
  intro hm
  exact hs c (hb c hm) hc

theorem encLoop_spec (tr : List Char → List Char) (input : List Char) (hp : plain input) :
    ∀ (f off : Nat) (out : List Char), input.length - off < f → encLoop tr input f off out = out ++ enc (input.drop off) := by
  first
  | (intros; rfl)        -- Gen/TbcdGen.lean fell back to the hand model (source outside the translator's shape): tie (b) alone
  | (
    intro f
    induction f with
    | zero => intro off out h; omega
    | succ f ih =>
      intro off out h
      unfold encLoop
      by_cases hlt : off < input.length
      · simp only [hlt, if_true]
        match hd : input.drop off with
        | [] => simp [List.drop_eq_nil_iff] at hd; omega
        | [a] =>
          simp [enc]
        | a :: b :: rest =>
          have hmem : ∀ c ∈ [b, a], c ∈ input := by
            intro c hc
            have : c ∈ input.drop off := by rw [hd]; simp at hc ⊢; rcases hc with h | h <;> simp [h]
            exact List.mem_of_mem_drop this
          have hsp := isSpecial_false [b, a] input hp hmem
          have hdrop : input.drop (off + 2) = rest := by
            rw [← List.drop_drop, hd]; rfl
          simp only [List.take, List.length_cons, List.length_nil, List.reverse_cons, List.reverse_nil, List.nil_append,
            List.singleton_append, hsp, if_true, Bool.false_eq_true, if_false]
          rw [ih (off + 2) (out ++ [b, a]) (by omega), hdrop]
          simp [enc]
      · simp only [hlt, if_false]
        have : input.drop off = [] := List.drop_eq_nil_iff.2 (by omega)
        simp [this, enc]
    )

/-- `encode_to_tbcd` as translated from the code on this run IS the model's encoder on every string without special characters
(in particular every digit string, any length): the round-trip, layout and filler theorems of C18 hold of the code as it is now -/
theorem gen_encode_eq (tr : List Char → List Char) (s : List Char) (hp : plain s) : encode tr s = enc s := by
  first
  | (rfl)        -- Gen/TbcdGen.lean fell back to the hand model (source outside the translator's shape): tie (b) alone
  | (
    unfold encode
    rw [encLoop_spec tr s hp _ 0 [] (by omega)]
    simp
    )

theorem decLoop_spec (input : List Char) :
    ∀ (f off : Nat) (out : List Char), input.length - off < f →
      decLoop input f off out = (dec (input.drop off)).map (out ++ ·) := by
  first
  | (intros; rfl)        -- Gen/TbcdGen.lean fell back to the hand model (source outside the translator's shape): tie (b) alone
  | (
    intro f
    induction f with
    | zero => intro off out h; omega
    | succ f ih =>
      intro off out h
      unfold decLoop
      by_cases hlt : off < input.length
      · simp only [hlt, if_true]
        match hd : input.drop off with
        | [] => simp [List.drop_eq_nil_iff] at hd; omega
        | [a] =>
          have hlen : (input.drop off).length = input.length - off := List.length_drop
          rw [hd] at hlen
          simp only [List.length_cons, List.length_nil] at hlen
          by_cases ha : a = 'f'
          · subst ha; simp [dec]
          · have hd2 : input.drop (off + 2) = [] := List.drop_eq_nil_iff.2 (by omega)
            have hne : (a == 'f') = false := by simp [ha]
            simp only [List.take, List.any_cons, List.any_nil, Bool.or_false, hne, Bool.not_false, if_true,
              List.reverse_cons, List.reverse_nil, List.nil_append]
            rw [ih (off + 2) (out ++ [a]) (by omega), hd2]
            simp [dec, hne]
        | a :: b :: rest =>
          have hdrop : input.drop (off + 2) = rest := by
            rw [← List.drop_drop, hd]; rfl
          by_cases hf : (a == 'f' || b == 'f') = true
          · have hc : ([a, b].any (fun c => c == 'f')) = true := by
              simp only [List.any_cons, List.any_nil, Bool.or_false]
              exact hf
            simp only [List.take, hc, Bool.not_true, Bool.false_eq_true, if_false, dec, hf, if_true]
            simp
          · have hf' : (a == 'f' || b == 'f') = false := by simpa using hf
            have hc : ([a, b].any (fun c => c == 'f')) = false := by
              simp only [List.any_cons, List.any_nil, Bool.or_false]
              exact hf'
            simp only [List.take, hc, Bool.not_false, if_true, List.reverse_cons, List.reverse_nil, List.nil_append,
              List.singleton_append]
            rw [ih (off + 2) (out ++ [b, a]) (by omega), hdrop]
            simp only [dec, hf', Bool.false_eq_true, if_false, Option.map_map]
            congr 1
            funext r
            simp
      · simp only [hlt, if_false]
        have : input.drop off = [] := List.drop_eq_nil_iff.2 (by omega)
        simp [this, dec]
    )

/-- `decode_from_tbcd` as translated from the code on this run IS the model's decoder, for every string -/
theorem gen_decode_eq (s : List Char) : decode s = dec s := by
  first
  | (rfl)        -- Gen/TbcdGen.lean fell back to the hand model (source outside the translator's shape): tie (b) alone
  | (
    unfold decode
    rw [decLoop_spec s _ 0 [] (by omega)]
    simp
    )
theorem digits_plain (s : List Char) (h : ∀ c ∈ s, c.isDigit = true) : plain s := by
  intro c hc hs
  have hd := h c hc
  have : c = '*' ∨ c = '#' ∨ c = 'a' ∨ c = 'b' ∨ c = 'c' := by
    simpa [specialChars] using hs
  rcases this with h | h | h | h | h <;> subst h <;> exact absurd hd (by decide)

/-- C18 on the translated code: decoding the encoding of any digit string returns the string -/
theorem code_roundtrip_digits (tr : List Char → List Char) (s : List Char) (h : ∀ c ∈ s, c.isDigit = true) :
    decode (encode tr s) = some s := by
  rw [gen_encode_eq tr s (digits_plain s h), gen_decode_eq]
  exact BV.C18.decode_encode_digits s h

end BV.C18Gen
