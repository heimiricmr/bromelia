import BromeliaVerif.Model.Outbound
import BromeliaVerif.Proofs.Lists
/-! C05 — submitted messages are written to the socket exactly once, whole and in order.
Over the model of the outbound pipeline (`Model/Outbound.lean`): every sequence of submissions (any
number of threads), batch flushes with any limit, transfers, partial writes of any size and inbound
events, in any order. -/
namespace BV.C05
open BV BV.Outbound

theorem takeBatch_split (limit : Nat) (q : List OMsg) (used : Nat) :
    (takeBatch limit used q).1 ++ (takeBatch limit used q).2 = q := by
  induction q generalizing used with
  | nil => rfl
  | cons m rest ih => unfold takeBatch; split <;> simp [ih]

theorem flat_append (a b : List OMsg) : flat (a ++ b) = flat a ++ flat b := by
  simp [flat]

/-- CONSERVATION: nothing is lost, duplicated, torn or reordered anywhere in the pipeline — what has
    been written, followed by what is buffered at each stage, is the concatenation of the accepted
    messages' encodings in acceptance order -/
def Inv (s : St) : Prop := s.written ++ s.sendbuf ++ s.pending ++ flat s.sendq = flat s.accepted

theorem inv_init : Inv init := by simp [Inv, init, flat]

theorem step_inv (s : St) (a : Act) (h : Inv s) : Inv (step s a) := by
  unfold Inv at *
  cases a with
  | submit m =>
    simp only [step]
    split
    · simp only [flat_append, ← List.append_assoc, h]
    · exact h
  | flush limit =>
    -- the batch moves from the head of the queue to the end of the hand-over buffer
    have e := congrArg flat (takeBatch_split limit s.sendq 0)
    simp only [step, ← h, ← e, flat_append, List.append_assoc]
  | transfer => simp [step, ← h]
  | write n =>
    have e := List.take_append_drop n s.sendbuf
    simp only [step, ← h, List.append_assoc]
    rw [← List.append_assoc (s.sendbuf.take n), e]
  | readEvent => exact h
  | disconnect => exact h

theorem conservation (as : List Act) : Inv (run as) :=
  foldl_inv step_inv as _ inv_init

/-- at every moment the bytes on the socket are a prefix of the concatenation of the accepted
    messages (in acceptance order): none duplicated, none torn or interleaved -/
theorem written_is_prefix (as : List Act) : (run as).written <+: flat (run as).accepted := by
  have := conservation as
  unfold Inv at this
  exact ⟨(run as).sendbuf ++ (run as).pending ++ flat (run as).sendq, by rw [← this]; simp [List.append_assoc]⟩

/-- once everything has drained, the socket has received exactly the concatenation: none lost -/
theorem drained_exact (as : List Act) (h1 : (run as).sendq = []) (h2 : (run as).pending = []) (h3 : (run as).sendbuf = []) :
    (run as).written = flat (run as).accepted := by
  have := conservation as
  unfold Inv at this
  rw [h1, h2, h3] at this
  simpa [flat] using this

/-- the messages of the submit actions, in order -/
def submits : List Act → List OMsg
  | [] => []
  | .submit m :: rest => m :: submits rest
  | _ :: rest => submits rest

theorem submits_cons (a : Act) (as : List Act) : submits (a :: as) = submits [a] ++ submits as := by
  cases a <;> rfl

/-- only a submission while connected is accepted -/
theorem step_accepted (s : St) (a : Act) :
    (step s a).accepted = s.accepted ++ (if s.connected = true then submits [a] else []) := by
  cases a <;> simp only [step, submits] <;> split <;> simp

theorem accepted_sublist (as : List Act) : ∀ s, (as.foldl step s).accepted.Sublist (s.accepted ++ submits as) := by
  induction as with
  | nil => intro s; simp [submits]
  | cons a rest ih =>
    intro s
    refine (ih (step s a)).trans ?_
    rw [step_accepted, submits_cons a rest, List.append_assoc]
    refine (List.Sublist.append ?_ (List.Sublist.refl _)).append_left _
    split
    · exact List.Sublist.refl _
    · exact List.nil_sublist _

/-- … and with the connection up throughout, every submission is accepted: the accepted list IS the
    list of submissions, so each submitter's messages appear in its submission order -/
theorem accepted_eq_submits (as : List Act) (hc : ∀ a ∈ as, a ≠ .disconnect) :
    ∀ s, s.connected = true → (as.foldl step s).accepted = s.accepted ++ submits as := by
  induction as with
  | nil => intro s _; simp [submits]
  | cons a rest ih =>
    intro s hs
    have hs' : (step s a).connected = true := by
      cases a <;> simp only [step, hs, if_true]
      exact absurd rfl (hc _ List.mem_cons_self)
    rw [List.foldl_cons, ih (fun x hx => hc x (List.mem_cons_of_mem _ hx)) _ hs', step_accepted, if_pos hs, submits_cons a rest,
      List.append_assoc]

/-- acceptance order restricted to one submitter is that submitter's submission order (while
    connected): the accepted list is the list of submit actions, in order -/
theorem per_submitter_order (as : List Act) (hc : ∀ a ∈ as, a ≠ .disconnect) (t : Nat) :
    (run as).accepted.filter (·.thr == t) = (submits as).filter (·.thr == t) := by
  unfold run
  rw [accepted_eq_submits as hc init rfl]
  simp [init]

/-- a batch never exceeds the limit unless its first message alone does (that message is sent on its
    own rather than starving the queue), and it never skips a message -/
theorem batch_is_prefix (limit : Nat) (q : List OMsg) : (takeBatch limit 0 q).1 <+: q :=
  ⟨(takeBatch limit 0 q).2, takeBatch_split limit q 0⟩

-- non-vacuity: two submitters, a partial write in the middle, inbound traffic in between
def m1 : OMsg := ⟨1, [1, 2, 3]⟩
def m2 : OMsg := ⟨2, [4, 5]⟩
def m3 : OMsg := ⟨1, [6]⟩
example : (run [.submit m1, .submit m2, .flush 4, .readEvent, .transfer, .write 2, .submit m3, .readEvent, .write 5, .flush 100,
    .transfer, .write 9]).written = [1, 2, 3, 4, 5, 6] := by decide
example : (takeBatch 4 0 [m1, m2, m3]).1 = [m1] ∧ (takeBatch 2 0 [m1, m2]).1 = [m1] := by decide

/-! ### the hand-over of the pinned tree (batch attached to the selector registration) does NOT have the
property: a read event drops it, a partial write re-delivers it -/

structure PSt where
  attached : Option Bytes     -- the batch attached to the selector key (`selector.modify(…, data=stream)`)
  dataStream : Bytes          -- `data_stream`
  queued : Bool               -- `send_data_stream_queued`
  sendbuf : Bytes
  written : Bytes
deriving DecidableEq, Repr

inductive PAct | flush (b : Bytes) | round (n : Nat) | readEvent
deriving Repr

/-- `round n`: one pass of `_run` with a write event in which `sock.send` accepts n bytes -/
def pstep (s : PSt) : PAct → PSt
  | .flush b => { s with attached := some b }
  | .readEvent => { s with attached := none }          -- `_set_selector_events_mask("r")` re-registers without data
  | .round n =>
    let s1 := match s.attached with | some b => { s with dataStream := s.dataStream ++ b } | none => s
    let s2 := if !s1.queued && !s1.dataStream.isEmpty
              then { s1 with sendbuf := s1.sendbuf ++ s1.dataStream, dataStream := [], queued := true } else s1
    let s3 := { s2 with written := s2.written ++ s2.sendbuf.take n, sendbuf := s2.sendbuf.drop n }
    if s3.queued && s3.sendbuf.isEmpty then { s3 with attached := none, queued := false } else s3

def pinit : PSt := { attached := none, dataStream := [], queued := false, sendbuf := [], written := [] }

/-- a read event between the flush and the write pass: the batch is gone -/
theorem pinned_read_event_loses :
    ([PAct.flush [1, 2, 3], .readEvent, .round 10].foldl pstep pinit).written = [] := by decide

/-- a partial write keeps the batch attached: it is appended to the output again on the next pass -/
theorem pinned_partial_write_duplicates :
    ([PAct.flush [1, 2, 3], .round 2, .round 10, .flush [4], .round 10].foldl pstep pinit).written = [1, 2, 3, 1, 2, 3, 4] := by decide


/-! ### write interest: bytes waiting in the transport keep the socket registered for write events -/

/-- bytes in the hand-over buffer or in the send buffer ⇒ `EVENT_WRITE` is registered -/
def WI (sa : St × Bool) : Prop := (sa.1.pending ≠ [] ∨ sa.1.sendbuf ≠ []) → sa.2 = true
theorem flat_eq_nil_of_batch_nil (b : List OMsg) (h : b = []) : flat b = [] := by subst h; rfl

/-- read the other way round: without the write interest the transport holds no bytes -/
theorem wi_iff (s : St) (armed : Bool) : WI (s, armed) ↔ (armed = false → s.pending = [] ∧ s.sendbuf = []) := by
  cases armed <;> simp [WI]

theorem step2_wi (sa : St × Bool) (a : Act) (h : WI sa) : WI (step2 sa a) := by
  obtain ⟨s, armed⟩ := sa
  rw [step2, wi_iff] at *
  cases a <;> simp only [step, armedAfter]
  case submit m => split <;> exact h
  case flush limit =>
    -- the interest stays off only if the batch was empty, and then nothing was handed over
    simp only [Bool.or_eq_false_iff, Bool.not_eq_eq_eq_not, Bool.not_false, List.isEmpty_iff]
    rintro ⟨ha, hb⟩
    simpa [hb, flat] using h ha
  case transfer => exact fun ha => by simp [h ha]
  case write n =>
    split
    next hd => exact fun hp => ⟨by simpa using hp, List.isEmpty_iff.1 hd⟩
    next => exact fun ha => by simp [h ha]
  case readEvent => simp [List.isEmpty_iff]
  case disconnect => exact h

/-- for every sequence of submissions, flushes, write events (whole or partial) and read events, in any order: while bytes
    wait in the transport the socket stays registered for write events, so the next select round writes them (no later
    submission is needed to get them moving) -/
theorem write_interest_kept (as : List Act) : WI (run2 as) :=
  foldl_inv step2_wi as _ fun h => h.elim (absurd rfl) (absurd rfl)

/-- the tracked pipeline is the pipeline -/
theorem run2_fst (as : List Act) : (run2 as).1 = run as :=
  (List.foldl_hom Prod.fst (g₁ := step2) (g₂ := step) fun _ _ => rfl).symm

/-- and a write event that takes everything empties the transport: with the interest kept, that event comes -/
theorem write_event_drains (s : St) :
    (step (step s .transfer) (.write (s.sendbuf.length + s.pending.length))).pending = [] ∧
    (step (step s .transfer) (.write (s.sendbuf.length + s.pending.length))).sendbuf = [] := by
  simp [step]

-- non-vacuity: a partial write followed by a read event keeps the interest (the pinned tree dropped it: `pinned_read_event_loses`)
example : (run2 [.submit ⟨0, [1, 2, 3, 4]⟩, .flush 100, .transfer, .write 1, .readEvent]).2 = true ∧
    (run2 [.submit ⟨0, [1, 2, 3, 4]⟩, .flush 100, .transfer, .write 1, .readEvent]).1.sendbuf = [2, 3, 4] := by decide

end BV.C05
