import BromeliaVerif.Gen.Dictionary
import BromeliaVerif.Proofs.Dict
import BromeliaVerif.Proofs.Table
/-! C10 — the AVP dictionary is unambiguous and every class enforces its declared type.

`Gen.dictionary`, `Gen.docs` and `Gen.reference` are regenerated from the working tree on every
check (`harness/gen_dict.py`); the table facts below are decided completely by the kernel
(`decide +kernel`) over whatever the tables contain now, two kinds of them in a form that is cheaper
to evaluate and implies the stated one (`Proofs/Table.lean`): rows are compared for a shared key
only within the classes of their code modulo 16, and the partner of a row in another table is looked
for from where the previous row found its own. -/
namespace BV.C10
open BV BV.Dict BV.Parse BV.Spec

/-! ### the table -/

/-- no class has a constructor shape the translator does not understand -/
theorem all_modelled : Gen.dictionary.all (fun e => e.kind != .unmodelled) = true := by decide +kernel

/-- the dictionary is a function: rows sharing a (Vendor-ID, code) key describe the same definition -/
theorem dictionary_functional :
    Gen.dictionary.all (fun a => Gen.dictionary.all (fun b => a.key != b.key || a.sameDef b)) = true :=
  functional_of_functionalBy (m := 16) (by decide) (by decide +kernel)

/-- every instance carries the V flag exactly when its class is vendor-specific, codes and vendors
    fit their fields, no reserved flag bit is set by default -/
theorem instance_identity :
    Gen.dictionary.all (fun e => vbit e.flags == e.vendor.isSome && decide (e.code < 2 ^ 32) &&
      decide (e.vendor.getD 0 < 2 ^ 32) && decide (e.flags % 32 = 0) && decide (e.flags < 256)) = true := by
  decide +kernel

/-- decoding dispatches each class's own (vendor, code) to that definition -/
theorem dispatch_correct :
    Gen.dictionary.all (fun e =>
      match dispatch Gen.dictionary { code := e.code, flags := e.flags, vendor := e.vendor, data := [] } with
      | some e' => e'.sameDef e
      | none => false) = true :=
  dispatch_of_functional _ dictionary_functional

/-- Vendor-ID 0 is not a vendor: no class is filed under an explicit vendor 0 (which would collide
    with the IETF space in the decoder's table) -/
theorem no_vendor_zero : Gen.dictionary.all (fun e => e.vendor != some 0) = true := by decide +kernel

/-- enumerations list distinct 32-bit values; Grouped classes name members by code -/
theorem enumerators_ok :
    Gen.dictionary.all (fun e => e.values.all (· < 2 ^ 32) && e.values.eraseDups.length == e.values.length &&
      (e.kind == .enumerated || e.values.isEmpty) && (e.kind == .grouped || e.mandatory.isEmpty)) = true := by
  decide +kernel

/-- published identity, part 1: every class agrees with the reviewed reference snapshot on name,
    Vendor-ID, code and data type (and every reference row still exists) -/
theorem published_match_reference :
    Gen.dictionary.all (fun e => Gen.reference.any (fun r =>
      r.nameKey == e.nameKey && r.vendor == e.vendor && r.code == e.code && r.type == e.kind.published)) = true ∧
    Gen.reference.all (fun r => Gen.dictionary.any (fun e => r.nameKey == e.nameKey)) = true :=
  ⟨Table.allAny_sound (by decide +kernel),
   Table.allAny_sound (by decide +kernel)⟩

/-- the two classes whose default flag byte deviates from RFC 6733 §4.5 (known finding
    C10-default-flags-297-299; five stable tests pin the flag byte 00): (vendor, code) -/
def flagDeviations : List (Option Nat × Nat) := [(none, 297), (none, 299)]

/-- published identity, part 2 (`_partial`: excludes exactly the two listed classes): default flags
    equal the reference snapshot -/
theorem published_flags_partial :
    Gen.dictionary.all (fun e => flagDeviations.contains (e.vendor, e.code) ||
      Gen.reference.any (fun r => r.nameKey == e.nameKey && r.flags == e.flags)) = true :=
  Table.all_or_any (Table.allAny_sound (by decide +kernel))

/-- published identity, part 3: every row of docs/list-of-avps.md names an existing class with that
    code and data type -/
theorem published_match_docs :
    Gen.docs.all (fun d => Gen.dictionary.any (fun e =>
      e.nameKey == d.1 && e.code == d.2.1 && e.kind.published == d.2.2)) = true :=
  Table.allAny_sound (by decide +kernel)

/-! ### the typed constructors -/

/-- soundness of construction, every kind, every Python value: whenever a constructor accepts a
    value, the data it builds is the well-formed encoding of that value for the class's declared
    type — never a silently malformed or empty AVP -/
theorem construct_sound (k : Kind) (vs : List Nat) (v : PyVal) (d : Bytes) (hv : v.valid)
    (h : construct k vs v = .ok d) : dataOf' k vs v = some d :=
  Dict.construct_sound k vs v d hv h

/-- fixed widths: integer, enumerated and time data are 4 (8) bytes; an address is a 2-byte family
    followed by 4 or 16 bytes -/
theorem encoding_widths (k : Kind) (vs : List Nat) (v : PyVal) (d : Bytes) (h : dataOf k vs v = some d) :
    (k = .unsigned32 ∨ k = .integer32 ∨ k = .enumerated ∨ k = .time → d.length = 4) ∧
    (k = .unsigned64 → d.length = 8) ∧ (k = .address → d.length = 6 ∨ d.length = 18) := by
  revert d
  simp only [dataOf]
  -- arm by arm: the data is `be w _`, or bytes whose length the guard states
  split <;> simp +contextual
  exact Or.imp And.right And.right

/-- enumerated data is a listed value -/
theorem enumerated_member (vs : List Nat) (v : PyVal) (d : Bytes) (h : construct .enumerated vs v = .ok d) :
    d.length = 4 ∧ fromBE d ∈ vs := by
  cases v <;> simp [construct, ite_eq_ok] at h
  obtain ⟨hc, rfl⟩ := h
  exact hc

/-- Grouped AVPs: every mandatory member present, data = concatenation of the members' encodings -/
theorem grouped_sound (mand : List (Option Nat × Nat)) (members : List Avp) (d : Bytes)
    (h : constructGrouped mand members = .ok d) :
    d = members.flatMap Avp.dump ∧ ∀ m ∈ mand, ∃ a ∈ members, a.code = m.2 := by
  unfold constructGrouped at h
  split at h
  · rename_i hall
    cases h
    refine ⟨rfl, fun m hm => ?_⟩
    obtain ⟨a, ha, hc⟩ := List.any_eq_true.mp (List.all_eq_true.mp hall m hm)
    exact ⟨a, ha, by simpa using hc⟩
  · cases h

/-- out-of-type values are rejected with an exception, for instance: text / None / float for the
    integer types, wrong widths, unknown enumerators, unknown address families -/
theorem rejects_examples :
    (∀ vs, construct .unsigned32 vs .none = .err (.lib "DataTypeError")) ∧
    (∀ vs s, construct .unsigned32 vs (.str s) = .err (.lib "DataTypeError")) ∧
    (∀ vs, construct .unsigned64 vs .float = .err (.lib "DataTypeError")) ∧
    (construct .enumerated [0, 1] (.bytes [0, 0, 0, 2]) = .err (.lib "AVPAttributeValueError")) ∧
    (construct .address [] (.bytes [0, 3, 1, 2, 3, 4]) = .err (.lib "DataTypeError")) ∧
    (construct .unsigned32 [] (.bytes [1, 2, 3]) = .err (.lib "DataTypeError")) := by
  refine ⟨?_, ?_, ?_, ?_, ?_, ?_⟩ <;> intros <;> simp [construct] <;> decide

-- non-vacuity
example : construct .unsigned32 [] (.int 4294967295) = .ok [255, 255, 255, 255] ∧
    construct .unsigned64 [] (.int (2 ^ 64 - 1)) = .ok (List.replicate 8 255) := by
  constructor <;> simp [construct] <;> decide

end BV.C10
