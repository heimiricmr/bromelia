import BromeliaVerif.Model.Ident
import BromeliaVerif.Proofs.Lists
/-! C15 — request identifiers are never reused within a process. -/
namespace BV.C15
open BV.Ident

/-- invariant: both registries are duplicate-free and every identifier handed to a thread is
    registered — pairwise distinctness of issued identifiers follows -/
structure Inv (s : Sys) : Prop where
  hbh_nodup : s.hbh.Nodup
  e2e_nodup : s.e2e.Nodup

/-- one registry and the identifiers that threads hold from it: no duplicates in either, and what is held is registered -/
structure Good (reg iss : List Nat) : Prop where
  reg_nodup : reg.Nodup
  iss_nodup : iss.Nodup
  sub : ∀ x ∈ iss, x ∈ reg

section
variable {f : Pc → Option Nat} {thr : List Pc} {t : Nat} {a b : Pc} {reg : List Nat}

/-- a thread moves on without taking an identifier -/
theorem Good.keep (hpc : thr[t]? = some a) (hf : f b = f a) (h : Good reg (thr.filterMap f)) :
    Good reg ((thr.set t b).filterMap f) := by
  obtain ⟨p, q, e1, e2⟩ := filterMap_set f hpc b
  rwa [e2, hf, ← e1]

/-- a thread takes an identifier that is not registered, and registers it in the same step -/
theorem Good.issue {r : Nat} (hpc : thr[t]? = some a) (ha : f a = none) (hb : f b = some r) (hr : r ∉ reg)
    (h : Good reg (thr.filterMap f)) : Good (reg ++ [r]) ((thr.set t b).filterMap f) := by
  have hp : ((thr.set t b).filterMap f).Perm (r :: thr.filterMap f) := by
    obtain ⟨p, q, e1, e2⟩ := filterMap_set f hpc b
    rw [e1, e2, ha, hb]
    simp
  refine ⟨(List.perm_append_singleton r reg).nodup_iff.2 (List.nodup_cons.2 ⟨hr, h.reg_nodup⟩),
    hp.nodup_iff.2 (List.nodup_cons.2 ⟨fun hm => hr (h.sub r hm), h.iss_nodup⟩), fun x hx => ?_⟩
  rcases List.mem_cons.1 (hp.mem_iff.1 hx) with rfl | hx
  · simp
  · exact List.mem_append_left _ (h.sub x hx)

end

/-- the identifiers handed out so far are pairwise distinct and registered -/
def Issued (s : Sys) : Prop := Good s.hbh (issuedH s) ∧ Good s.e2e (issuedE s)

theorem step_issued (s : Sys) (t : Nat) (h : Issued s) : Issued (stepThread s t) := by
  unfold stepThread
  split
  · exact h
  next pc hpc =>
    cases pc with
    | readH =>
      simp only; split
      · exact h
      · exact ⟨h.1.keep hpc rfl, h.2.keep hpc rfl⟩
    | commitH r =>
      simp only; split
      next => exact ⟨h.1.keep hpc rfl, h.2.keep hpc rfl⟩
      next hr => exact ⟨h.1.issue hpc rfl rfl hr, h.2.keep hpc rfl⟩
    | readE hh =>
      simp only; split
      · exact h
      · exact ⟨h.1.keep hpc rfl, h.2.keep hpc rfl⟩
    | commitE hh r =>
      simp only; split
      next => exact ⟨h.1.keep hpc rfl, h.2.keep hpc rfl⟩
      next hr => exact ⟨h.1.keep hpc rfl, h.2.issue hpc rfl rfl hr⟩
    | done _ _ => exact h

theorem act_issued (s : Sys) (a : Act) (h : Issued s) : Issued (act s a) := by
  cases a with
  | step t => exact step_issued s t h
  | explicitHeader => exact h
  | spawn => simpa [Issued, act, issuedH, issuedE] using h

theorem run_issued (src : List Nat) (as : List Act) : Issued (as.foldl act { hbh := [], e2e := [], src := src, thr := [] }) :=
  foldl_inv act_issued as _ ⟨⟨.nil, .nil, nofun⟩, ⟨.nil, .nil, nofun⟩⟩

/-- the registries stay duplicate-free under EVERY schedule, every number of threads and every output
    of the random source (including constant and repeating sources) -/
theorem registries_nodup (src : List Nat) (as : List Act) :
    Inv (as.foldl act { hbh := [], e2e := [], src := src, thr := [] }) :=
  have h := run_issued src as
  ⟨h.1.reg_nodup, h.2.reg_nodup⟩

/-- explicit-header creations never consume or alter identifiers -/
theorem explicit_header_pure (s : Sys) : act s .explicitHeader = s := rfl

/-- every registry only grows by appending: earlier registrations are never lost or reordered -/
theorem registry_monotone (s : Sys) (a : Act) : s.hbh <+: (act s a).hbh ∧ s.e2e <+: (act s a).e2e := by
  cases a with
  | spawn => exact ⟨List.prefix_refl _, List.prefix_refl _⟩
  | explicitHeader => exact ⟨List.prefix_refl _, List.prefix_refl _⟩
  | step t =>
    -- every branch of `stepThread` leaves a registry as it is or appends one identifier
    simp only [act, stepThread]
    split
    · simp
    next pc _ =>
      cases pc <;> simp only
      case done => simp
      all_goals split <;> simp

/-- FULL STATEMENT: under every interleaving of any number of creating threads and every output of
    the random source, the Hop-by-Hop identifiers handed to requests are pairwise distinct, and so
    are the End-to-End identifiers -/
theorem issued_nodup (src : List Nat) (as : List Act) :
    let s := as.foldl act { hbh := [], e2e := [], src := src, thr := [] }
    (issuedH s).Nodup ∧ (issuedE s).Nodup :=
  have h := run_issued src as
  ⟨h.1.iss_nodup, h.2.iss_nodup⟩

-- non-vacuity: two threads racing on a constant source 7,7,7,8,8,9 …: both finish with distinct ids
example :
    let s := [Act.spawn, .spawn, .step 0, .step 1, .step 0, .step 1, .step 1, .step 1, .step 0, .step 0, .step 1, .step 1, .step 1, .step 1].foldl act
      { hbh := [], e2e := [], src := [7, 7, 7, 8, 8, 9, 9, 9], thr := [] }
    s.hbh = [7, 8] ∧ issuedH s = [7, 8] := by decide

/-! ### the pinned tree tested membership and appended in two steps: that order does NOT have the property -/

inductive PcP | read | got (r : Nat) | tested (r : Nat) | done (r : Nat)
deriving DecidableEq, Repr

/-- registry, random source, threads -/
abbrev SysP := List Nat × List Nat × List PcP

/-- one step of thread t in the pinned tree: read / test membership / append, each on its own -/
def stepP (s : SysP) (t : Nat) : SysP :=
  match s.2.2[t]? with
  | some .read => (match s.2.1 with | [] => s | r :: rest => (s.1, rest, s.2.2.set t (.got r)))
  | some (.got r) => if r ∈ s.1 then (s.1, s.2.1, s.2.2.set t .read) else (s.1, s.2.1, s.2.2.set t (.tested r))
  | some (.tested r) => (s.1 ++ [r], s.2.1, s.2.2.set t (.done r))
  | _ => s

/-- two threads, a random source that repeats: both pass the test before either appends, both get 5 -/
theorem pinned_two_step_commit_duplicates :
    ([0, 1, 0, 1, 0, 1].foldl stepP ([], [5, 5], [.read, .read])) = ([5, 5], [], [.done 5, .done 5]) := by decide

end BV.C15

