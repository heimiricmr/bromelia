import BromeliaVerif.Proofs.Bits
import BromeliaVerif.Gen.PyFuns
import BromeliaVerif.Model.Address
import BromeliaVerif.Model.Ipv4
import BromeliaVerif.Model.Time
/-! C20 — typed AVP value accessors agree with the wire data for every value (bit part; the Address
and Time parts follow below). -/
namespace BV.C20
open BV BV.Bits

/-- testing a bit reads exactly that bit of the big-endian word — every 4 data bytes, every index 0..31 -/
theorem bit_test_eq (d : Nat → Nat) (hd : ∀ k, k < 4 → d k < 256) (b : Nat) (hb : b < 32) :
    isBitSetD d b = some ((word d).testBit b) := isBitSetD_eq d hd b hb

/-- out-of-range indices are rejected (library error) by all three operations -/
theorem bit_errors_range (d : Nat → Nat) (b : Nat) (hb : 32 ≤ b) :
    isBitSetD d b = none ∧ setBitD d b = none ∧ unsetBitD d b = none := by
  have h : ¬ b < 32 := Nat.not_lt.2 hb
  exact ⟨by rw [isBitSetD_eq_byte, if_neg h], by rw [setBitD_eq, if_neg fun c => h c.1],
    by rw [unsetBitD_eq, if_neg fun c => h c.1]⟩

/-- redundant set / clear is rejected -/
theorem bit_errors_redundant (d : Nat → Nat) (hd : ∀ k, k < 4 → d k < 256) (b : Nat) (hb : b < 32) :
    ((word d).testBit b = true → setBitD d b = none) ∧
    ((word d).testBit b = false → unsetBitD d b = none) := by
  rw [setBitD_eq, unsetBitD_eq, testBit_word d hd b hb]
  constructor <;> intro e <;> simp [e]

/-- setting a clear bit changes exactly that bit of the word (and keeps four bytes) -/
theorem bit_set_exact (d : Nat → Nat) (hd : ∀ k, k < 4 → d k < 256) (b : Nat) (hb : b < 32)
    (hclear : (word d).testBit b = false) :
    ∃ d', setBitD d b = some d' ∧ (∀ k, k < 4 → d' k < 256) ∧
      ∀ i, i < 32 → (word d').testBit i = ((word d).testBit i || decide (i = b)) := by
  have hv := or_byte_lt _ b (hd (3 - b / 8) (by omega))
  rw [testBit_word d hd b hb] at hclear
  exact ⟨_, by rw [setBitD_eq, if_pos ⟨hb, hclear⟩], upd_lt d hd _ _ hv,
    testBit_word_mask Nat.testBit_or Bool.or_false d hd b hb hv⟩

/-- clearing a set bit changes exactly that bit of the word -/
theorem bit_unset_exact (d : Nat → Nat) (hd : ∀ k, k < 4 → d k < 256) (b : Nat) (hb : b < 32)
    (hset : (word d).testBit b = true) :
    ∃ d', unsetBitD d b = some d' ∧ (∀ k, k < 4 → d' k < 256) ∧
      ∀ i, i < 32 → (word d').testBit i = ((word d).testBit i && !decide (i = b)) := by
  have hv := xor_byte_lt _ b (hd (3 - b / 8) (by omega))
  refine ⟨_, by rw [unsetBitD_eq, if_pos ⟨hb, testBit_word d hd b hb ▸ hset⟩], upd_lt d hd _ _ hv, fun i hi => ?_⟩
  -- the code flips the bit (`^`); on a set bit that clears it
  rw [testBit_word_mask Nat.testBit_xor Bool.xor_false d hd b hb hv i hi]
  by_cases e : i = b
  · rw [e, hset]; simp
  · simp [e]

/-- setting a clear bit and clearing it again gives back the original word: `set_bit` / `unset_bit` are
    inverse to each other on every value and every index -/
theorem bit_set_unset_roundtrip (d : Nat → Nat) (hd : ∀ k, k < 4 → d k < 256) (b : Nat) (hb : b < 32)
    (hclear : (word d).testBit b = false) :
    ∃ d' d'', setBitD d b = some d' ∧ unsetBitD d' b = some d'' ∧ word d'' = word d := by
  obtain ⟨d', h, _⟩ := bit_set_exact d hd b hb hclear
  exact ⟨d', d, h, unsetBitD_setBitD d d' b h, rfl⟩

/-- … and the other way round -/
theorem bit_unset_set_roundtrip (d : Nat → Nat) (hd : ∀ k, k < 4 → d k < 256) (b : Nat) (hb : b < 32)
    (hset : (word d).testBit b = true) :
    ∃ d' d'', unsetBitD d b = some d' ∧ setBitD d' b = some d'' ∧ word d'' = word d := by
  obtain ⟨d', h, _⟩ := bit_unset_exact d hd b hb hset
  exact ⟨d', d, h, setBitD_unsetBitD d d' b h, rfl⟩

/-! ### The code as translated on this run (Gen/PyFuns.lean) is the hand model

`none` exactly when the code raises, otherwise its result — so the theorems above hold of the code as it is now. When a
function has left the translator's subset, Gen/PyFuns.lean defines it as the hand model itself; unfolding it (`rfl`) is
then the whole proof, and the tie is the dynamic correspondence alone. -/

theorem decide_ne_eq_bne (a b : Nat) : decide (a ≠ b) = (a != b) := by
  by_cases h : a = b <;> simp [h]

/-- the accessor translated from the source on this run is the hand model -/
theorem gen_isBitSet_eq (d : Nat → Nat) (b : Nat) : Gen.isBitSet d b = isBitSetD d b := by
  first
  | rfl
  | (
    -- the translation tests `lo ≤ bit < hi` where the model tests `bit < hi`; after a failed `bit < lo` they agree
    unfold Gen.isBitSet isBitSetD
    simp only [decide_ne_eq_bne]
    by_cases h8 : b < 8
    · simp [h8]
    by_cases h16 : b < 16
    · simp [h8, h16, Nat.le_of_not_lt h8]
    by_cases h24 : b < 24
    · simp [h8, h16, h24, Nat.le_of_not_lt h16]
    simp [h8, h16, h24, Nat.le_of_not_lt h24]
    )

-- the four-branch update of the translated `set_bit` / `unset_bit`, one case for each byte `3 - b / 8`: the branch is
-- selected, the translation's check that the data are bytes passes (`f`: the new byte is one), and the four data are
-- the model's `upd`
macro "bit_cases" b:ident hlt:ident f:ident h0:ident h1:ident h2:ident h3:ident : tactic => `(tactic| (
      have hq : $b / 8 = 0 ∨ $b / 8 = 1 ∨ $b / 8 = 2 ∨ $b / 8 = 3 := by omega
      rcases hq with q | q | q | q
      · have c1 : $b < 8 := by omega
        have e : $b % 8 = $b := Nat.mod_eq_of_lt c1
        have := $f _ $b $h3
        simp [c1, $h0:ident, $h1:ident, $h2:ident, this, acc4, upd, q, e] <;> (rw [e] at this; simp [this])
      · have c1 : ¬ $b < 8 := by omega
        have c2 : 8 ≤ $b := by omega
        have c3 : $b < 16 := by omega
        have := $f _ $b $h2
        simp [c1, c2, c3, $h0:ident, $h1:ident, $h3:ident, this, acc4, upd, q]
      · have c1 : ¬ $b < 8 := by omega
        have c2 : ¬ $b < 16 := by omega
        have c3 : 16 ≤ $b := by omega
        have c4 : $b < 24 := by omega
        have c5 : 8 ≤ $b := by omega
        have := $f _ $b $h1
        simp [c1, c2, c3, c4, c5, $h0:ident, $h2:ident, $h3:ident, this, acc4, upd, q]
      · have c1 : ¬ $b < 8 := by omega
        have c2 : ¬ $b < 16 := by omega
        have c3 : ¬ $b < 24 := by omega
        have c4 : 24 ≤ $b := by omega
        have c5 : 8 ≤ $b := by omega
        have c6 : 16 ≤ $b := by omega
        have := $f _ $b $h0
        simp [c1, c2, c3, c4, c5, c6, $hlt:ident, $h1:ident, $h2:ident, $h3:ident, this, acc4, upd, q]))

theorem gen_setBit_eq (d0 d1 d2 d3 b : Nat) (h0 : d0 < 256) (h1 : d1 < 256) (h2 : d2 < 256) (h3 : d3 < 256) :
    Gen.setBit d0 d1 d2 d3 b = (setBitD (acc4 d0 d1 d2 d3) b).map (fun f => (f 0, f 1, f 2, f 3)) := by
  first
  | rfl
  | (
    unfold Gen.setBit setBitD
    rw [show (fun k => if k = 0 then d0 else if k = 1 then d1 else if k = 2 then d2 else d3) = acc4 d0 d1 d2 d3 from rfl,
      gen_isBitSet_eq, isBitSetD_eq_byte]
    by_cases hlt : b < 32
    · rw [if_pos hlt]
      cases (acc4 d0 d1 d2 d3 (3 - b / 8)).testBit (b % 8)
      · simp only [Option.map]
        bit_cases b hlt or_byte_lt h0 h1 h2 h3
      · rfl
    · rw [if_neg hlt]; rfl
    )

theorem gen_unsetBit_eq (d0 d1 d2 d3 b : Nat) (h0 : d0 < 256) (h1 : d1 < 256) (h2 : d2 < 256) (h3 : d3 < 256) :
    Gen.unsetBit d0 d1 d2 d3 b = (unsetBitD (acc4 d0 d1 d2 d3) b).map (fun f => (f 0, f 1, f 2, f 3)) := by
  first
  | rfl
  | (
    unfold Gen.unsetBit unsetBitD
    rw [show (fun k => if k = 0 then d0 else if k = 1 then d1 else if k = 2 then d2 else d3) = acc4 d0 d1 d2 d3 from rfl,
      gen_isBitSet_eq, isBitSetD_eq_byte]
    by_cases hlt : b < 32
    · rw [if_pos hlt]
      cases (acc4 d0 d1 d2 d3 (3 - b / 8)).testBit (b % 8)
      · rfl
      · simp only [Option.map]
        bit_cases b hlt xor_byte_lt h0 h1 h2 h3
    · rw [if_neg hlt]; rfl
    )

-- non-vacuity: bit 9 of 0x00000200 is set, bit 8 is not; setting bit 0 of 0x80000000 gives 0x80000001
example : isBitSet 0x200 9 = some true ∧ isBitSet 0x200 8 = some false ∧ isBitSet 0 32 = none := by decide
example : setBit 0x80000000 0 = some 0x80000001 ∧ unsetBit 0x80000001 31 = some 1 ∧ setBit 1 0 = none := by decide

/-- CODE level (over the translation of `Unsigned32Type.set_bit` / `unset_bit`): if `set_bit(b)` succeeds on data
    bytes d0..d3, then `unset_bit(b)` on the result succeeds and gives back exactly d0..d3 -/
theorem code_set_unset_roundtrip (d0 d1 d2 d3 b : Nat) (h0 : d0 < 256) (h1 : d1 < 256) (h2 : d2 < 256) (h3 : d3 < 256)
    (e : Nat × Nat × Nat × Nat) (hs : Gen.setBit d0 d1 d2 d3 b = some e) :
    Gen.unsetBit e.1 e.2.1 e.2.2.1 e.2.2.2 b = some (d0, d1, d2, d3) := by
  rw [gen_setBit_eq d0 d1 d2 d3 b h0 h1 h2 h3, Option.map_eq_some_iff] at hs
  obtain ⟨d', hs, rfl⟩ := hs
  -- the bytes after `set_bit` are bytes again, so the translated `unset_bit` is the model's on them
  have hd' := setBitD_lt _ (acc4_lt h0 h1 h2 h3) b d' hs
  show Gen.unsetBit (d' 0) (d' 1) (d' 2) (d' 3) b = _
  rw [gen_unsetBit_eq _ _ _ _ b (hd' 0 (by omega)) (hd' 1 (by omega)) (hd' 2 (by omega)) (hd' 3 (by omega))]
  exact (unsetBitD_acc4 d' b).trans (congrArg (Option.map tup) (unsetBitD_setBitD _ d' b hs))
end BV.C20

/-! ### Address -/
namespace BV.C20
open BV BV.Address

/-- an Address AVP built from any IPv4 or IPv6 address encodes the family code followed by the packed
    address and reports the same family and address back -/
theorem address_roundtrip (f : Fam) (packed : Bytes) (h : packed.length = width f) :
    (mk f packed).take 2 = famCode f ∧ (mk f packed).drop 2 = packed ∧
    famOf (mk f packed) = some f ∧ packedOf (mk f packed) = packed ∧ fromBytesOk (mk f packed) = true := by
  cases f <;> simp [mk, famCode, famOf, packedOf, fromBytesOk, width] at * <;> simp [h]

/-- the family code is 1 for IPv4 and 2 for IPv6, big-endian on two bytes -/
theorem address_family_code : famCode .v4 = be 2 1 ∧ famCode .v6 = be 2 2 := by decide

/-- data of any other shape is not accepted from the wire -/
theorem address_wire_rejects (data : Bytes) (h : fromBytesOk data = true) :
    ∃ f, data.take 2 = famCode f ∧ (data.drop 2).length = width f := by
  unfold fromBytesOk at h
  simp only [Bool.or_eq_true, Bool.and_eq_true, beq_iff_eq] at h
  rcases h with ⟨a, b⟩ | ⟨a, b⟩
  · exact ⟨.v4, a, b⟩
  · exact ⟨.v6, a, b⟩

example : mk .v4 [10, 129, 241, 235] = [0, 1, 10, 129, 241, 235] := by decide
example : BV.Ipv4.parse "10.129.241.235".toList = some [10, 129, 241, 235] ∧
    BV.Ipv4.parse "10.129.241.0235".toList = none ∧ BV.Ipv4.parse "10.129.241".toList = none ∧
    BV.Ipv4.parse "10.129.241.01".toList = none := by decide

/-! ### Time -/
open BV.Time BV.Spec.Ntp

/-- the Time data are the whole seconds, big-endian on four bytes, for every representable instant -/
theorem time_is_seconds (days secs : Nat) (h : days * 86400 + secs < 2 ^ 32) :
    ∃ bs, timeData days secs = some bs ∧ bs.length = 4 ∧ fromBE bs = days * 86400 + secs := by
  refine ⟨be 4 (days * 86400 + secs), by simp [timeData, h], by simp, ?_⟩
  exact fromBE_be 4 _ (by simpa using h)

/-- instants beyond 2036-02-07T06:28:15 are rejected, not wrapped -/
theorem time_range_error (days secs : Nat) (h : 2 ^ 32 ≤ days * 86400 + secs) : timeData days secs = none := by
  simp [timeData]; omega

/-- `Spec.Ntp` is the day count from 1900-01-01: day 0 and the three successor laws characterise it -/
theorem ntp_epoch : seconds 1900 1 1 0 0 0 = 0 := by decide

theorem ntp_next_day (y m d hh mm ss : Nat) (hd : 1 ≤ d) :
    seconds y m (d + 1) hh mm ss = seconds y m d hh mm ss + 86400 := by
  unfold seconds days; omega

theorem sum_map_range_succ (g : Nat → Nat) (n : Nat) :
    ((List.range (n + 1)).map g).sum = ((List.range n).map g).sum + g n := by
  simp [List.range_succ]

theorem ntp_next_month (y m : Nat) (hm : 1 ≤ m) :
    days y (m + 1) 1 = days y m 1 + daysInMonth y m := by
  unfold days daysBeforeMonth
  rw [show m + 1 - 1 = (m - 1) + 1 by omega, sum_map_range_succ, show m - 1 + 1 = m by omega]
  omega

theorem ntp_next_year (y : Nat) (hy : 1900 ≤ y) :
    days (y + 1) 1 1 = days y 1 1 + yearLen y := by
  have jan (y : Nat) : daysBeforeMonth y 1 = 0 := rfl
  unfold days daysBeforeYear
  rw [show y + 1 - 1900 = (y - 1900) + 1 by omega, sum_map_range_succ, show 1900 + (y - 1900) = y by omega, jan, jan]
  omega

theorem ntp_year_is_twelve_months (y : Nat) : daysBeforeMonth y 13 = yearLen y := by
  unfold daysBeforeMonth yearLen daysInMonth
  cases isLeap y <;> decide

/-- the last representable instant -/
example : seconds 2036 2 7 6 28 15 = 2 ^ 32 - 1 := by decide +kernel
example : seconds 2021 3 4 5 6 7 = 3823823167 := by decide +kernel

end BV.C20
