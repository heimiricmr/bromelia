import BromeliaVerif.Model.Pending
import BromeliaVerif.Proofs.Lists
/-! C14 — a waiting sender gets its own answer, matched by Hop-by-Hop id, and always wakes.
Over the model of the rendezvous (`Model/Pending.lean`): any number of callers, any number of
answers per identifier (duplicates), stray answers, every interleaving of callers and answer-dispatch
threads at the granularity of single synchronisation operations. -/
namespace BV.C14
open BV.Pending

def early : DPc → Bool | .check | .found | .fetched | .dropped | .crashed => true | _ => false
def hasNotified : DPc → Bool | .notified | .released | .done => true | _ => false
def lost : DPc → Bool | .dropped | .crashed => true | _ => false
def finished : DPc → Bool | .done | .dropped | .crashed => true | _ => false
def isAnswer : Slot → Bool | .answer _ => true | .request => false
def afterWait : CPc → Bool | .woke | .cleared | .stopSet | .done => true | _ => false
def stopped : CPc → Bool | .stopSet | .done => true | _ => false

/-- invariant of one record -/
structure LInv (r : Rec) : Prop where
  unsent_quiet : r.sent = false → r.disp = [] ∧ r.recv = false ∧ r.slot = .request
  reg_start : r.cpc = .start → r.reg = false
  reg_until_stop : r.cpc ≠ .start → r.stop = false → r.reg = true
  stop_iff : r.stop = stopped r.cpc
  lost_after_stop : r.disp.any lost = true → r.stop = true
  released_after_stop : r.disp.any (· == .released) = true → r.stop = true
  request_slot : r.slot = .request → r.disp.all early = true ∧ r.recv = false ∧ afterWait r.cpc = false
  notified_wakes : r.disp.any hasNotified = true → r.cpc = .waiting → r.recv = true
  result_done : r.result.isSome = (r.cpc == .done)
  result_answer : ∀ v, r.result = some v → isAnswer v = true

theorem linv_init : LInv Rec.init := by
  constructor <;> simp [Rec.init, Rec.sent, stopped, afterWait]

/-! ### the caller's steps -/

theorem caller_inv (r r' : Rec) (h : callerStep r = some r') (hi : LInv r) : LInv r' := by
  obtain ⟨cpc, reg, recv, stop, slot, disp, result⟩ := r
  have hq : afterWait cpc = true → slot ≠ .request := fun ha e => nomatch ha.symm.trans (hi.request_slot e).2.2
  -- in each case: the clauses that the step touches; all others are those of `hi` as they stand
  cases cpc <;> simp only [callerStep] at h
  · -- start → registered
    cases h
    exact { hi with reg_start := nofun, reg_until_stop := fun _ _ => rfl, notified_wakes := fun _ => nofun }
  · -- registered → waiting: no answer can have arrived yet
    cases h
    obtain ⟨rfl, -, -⟩ := hi.unsent_quiet rfl
    exact { hi with
      unsent_quiet := nofun, reg_start := nofun, reg_until_stop := fun _ => hi.reg_until_stop nofun
      notified_wakes := nofun }
  · -- waiting → woke: enabled by `recv`, which is only set once the slot holds an answer
    split at h
    · cases h
      exact { hi with
        unsent_quiet := nofun, reg_start := nofun, reg_until_stop := fun _ => hi.reg_until_stop nofun
        request_slot := fun e => nomatch (hi.request_slot e).2.1.symm.trans ‹recv = true›
        notified_wakes := fun _ => nofun }
    · cases h
  · -- woke → cleared
    cases h
    exact { hi with
      unsent_quiet := nofun, reg_start := nofun, reg_until_stop := fun _ => hi.reg_until_stop nofun
      request_slot := fun e => absurd e (hq rfl)
      notified_wakes := fun _ => nofun }
  · -- cleared → stopSet
    cases h
    exact { hi with
      unsent_quiet := nofun, reg_start := nofun, reg_until_stop := fun _ => nofun
      stop_iff := rfl, lost_after_stop := fun _ => rfl, released_after_stop := fun _ => rfl
      request_slot := fun e => absurd e (hq rfl)
      notified_wakes := fun _ => nofun }
  · -- stopSet → done: what is returned is the slot, which holds an answer
    cases h
    exact { hi with
      unsent_quiet := nofun, reg_start := nofun
      reg_until_stop := fun _ e => nomatch hi.stop_iff.symm.trans e
      request_slot := fun e => absurd e (hq rfl)
      notified_wakes := fun _ => nofun
      result_done := rfl
      result_answer := fun v e => by cases e; cases slot; exact absurd rfl (hq rfl); rfl }
  · cases h

/-! ### the dispatch threads: `LInv` read one thread at a time -/

/-- what the program counter `d` of one dispatch thread says about its record -/
structure DInv (r : Rec) (d : DPc) : Prop where
  sent : r.sent = true
  lost_stop : lost d = true → r.stop = true
  released_stop : d = .released → r.stop = true
  request_early : r.slot = .request → early d = true
  wakes : hasNotified d = true → r.cpc = .waiting → r.recv = true

theorem LInv.thread {r : Rec} {d : DPc} (hi : LInv r) (hd : d ∈ r.disp) : DInv r d where
  sent := by
    cases hs : r.sent
    · rw [(hi.unsent_quiet hs).1] at hd; cases hd
    · rfl
  lost_stop h := hi.lost_after_stop (List.any_eq_true.2 ⟨d, hd, h⟩)
  released_stop h := hi.released_after_stop (List.any_eq_true.2 ⟨d, hd, by simp [h]⟩)
  request_early h := List.all_eq_true.1 (hi.request_slot h).1 d hd
  wakes h := hi.notified_wakes (List.any_eq_true.2 ⟨d, hd, h⟩)

/-- the clauses of `LInv` about the dispatch threads hold of any list of program counters each of which agrees with the record -/
theorem LInv.with_disp {r : Rec} (hi : LInv r) {l : List DPc} (hl : ∀ d ∈ l, DInv r d) : LInv { r with disp := l } where
  unsent_quiet hs := by
    refine ⟨?_, (hi.unsent_quiet hs).2⟩
    cases l with
    | nil => rfl
    | cons d _ => exact nomatch (hl d List.mem_cons_self).sent.symm.trans hs
  reg_start := hi.reg_start
  reg_until_stop := hi.reg_until_stop
  stop_iff := hi.stop_iff
  lost_after_stop h := by
    obtain ⟨d, hd, h⟩ := List.any_eq_true.1 h
    exact (hl d hd).lost_stop h
  released_after_stop h := by
    obtain ⟨d, hd, h⟩ := List.any_eq_true.1 h
    exact (hl d hd).released_stop (by simpa using h)
  request_slot hs := ⟨List.all_eq_true.2 fun d hd => (hl d hd).request_early hs, (hi.request_slot hs).2⟩
  notified_wakes h := by
    obtain ⟨d, hd, h⟩ := List.any_eq_true.1 h
    exact (hl d hd).wakes h
  result_done := hi.result_done
  result_answer := hi.result_answer

theorem LInv.set_pc {r : Rec} {d : DPc} (hi : LInv r) (j : Nat) (hd : DInv r d) : LInv { r with disp := r.disp.set j d } :=
  hi.with_disp fun _ he => (List.mem_or_eq_of_mem_set he).elim hi.thread (· ▸ hd)

/-- a program counter before `update_msg` agrees with any record whose request is sent, as long as no entry was missed
    before `stop_event` -/
theorem DInv.of_early {r : Rec} {d : DPc} (hs : r.sent = true) (he : early d = true) (hl : lost d = true → r.stop = true) :
    DInv r d where
  sent := hs
  lost_stop := hl
  released_stop := by rintro rfl; cases he
  request_early _ := he
  wakes h := by cases d <;> cases he <;> cases h

theorem arrive_inv (r : Rec) (hs : r.sent = true) (hi : LInv r) : LInv { r with disp := r.disp ++ [.check] } :=
  hi.with_disp fun d hd => by
    rcases List.mem_append.1 hd with hd | hd
    · exact hi.thread hd
    · cases List.mem_singleton.1 hd; exact .of_early hs rfl nofun

/-- the entry is in the registry until the caller has set `stop_event` -/
theorem LInv.stop_of_unreg {r : Rec} (hi : LInv r) (hs : r.sent = true) (hr : ¬ r.reg = true) : r.stop = true := by
  cases hst : r.stop
  · exact absurd (hi.reg_until_stop (fun e => by simp [Rec.sent, e] at hs) hst) hr
  · rfl

/-- `is_pending_answer` / `get_pending_answer`: the thread goes on (`a`) if the entry is there, and gives up (`b`) if not -/
theorem LInv.lookup {r : Rec} (hi : LInv r) (hs : r.sent = true) {a b : DPc} (ha : early a = true) (hla : lost a = false)
    (hb : early b = true) : DInv r (if r.reg = true then a else b) := by
  split
  next => exact .of_early hs ha (by simp [hla])
  next hr => exact .of_early hs hb fun _ => hi.stop_of_unreg hs hr

theorem LInv.set_slot {r : Rec} (hi : LInv r) (hs : r.sent = true) (k : Nat) : LInv { r with slot := .answer k } :=
  { hi with
    unsent_quiet := fun h => nomatch hs.symm.trans h
    request_slot := nofun }

theorem LInv.set_recv {r : Rec} (hi : LInv r) (hs : r.sent = true) (hq : r.slot ≠ .request) : LInv { r with recv := true } :=
  { hi with
    unsent_quiet := fun h => nomatch hs.symm.trans h
    request_slot := fun h => absurd h hq
    notified_wakes := fun _ _ => rfl }

theorem LInv.unregister {r : Rec} (hi : LInv r) (hst : r.stop = true) : LInv { r with reg := false } :=
  { hi with
    reg_start := fun _ => rfl
    reg_until_stop := fun _ h => nomatch hst.symm.trans h }

theorem disp_inv (r r' : Rec) (j : Nat) (h : dispStep r j = some r') (hi : LInv r) : LInv r' := by
  unfold dispStep at h
  split at h
  · cases h
  next pc hd =>
    have ht := hi.thread (List.mem_of_getElem? hd)
    have hq : early pc = false → r.slot ≠ .request := fun hp e => nomatch hp.symm.trans (ht.request_early e)
    -- in each case: the record after the step satisfies `LInv` with the old program counters, and the new one agrees with it
    split at h
    · cases h; exact hi.set_pc j (hi.lookup ht.sent rfl rfl rfl)
    · cases h; exact hi.set_pc j (hi.lookup ht.sent rfl rfl rfl)
    · cases h; exact (hi.set_slot ht.sent j).set_pc j ⟨ht.sent, nofun, nofun, nofun, nofun⟩
    · cases h
      exact (hi.set_recv ht.sent (hq rfl)).set_pc j ⟨ht.sent, nofun, nofun, fun e => absurd e (hq rfl), fun _ _ => rfl⟩
    · split at h
      · cases h
        exact hi.set_pc j ⟨ht.sent, nofun, fun _ => ‹r.stop = true›, fun e => absurd e (hq rfl), fun _ => ht.wakes rfl⟩
      · cases h
    · cases h
      exact (hi.unregister (ht.released_stop rfl)).set_pc j
        ⟨ht.sent, nofun, nofun, fun e => absurd e (hq rfl), fun _ => ht.wakes rfl⟩
    all_goals cases h

/-! ### from one record to the system -/

theorem updAt_mem {P : Rec → Prop} {s : Sys} {i : Nat} {f : Rec → Option Rec} (hf : ∀ r r', f r = some r' → P r → P r')
    (h : ∀ r ∈ s, P r) : ∀ r ∈ updAt s i f, P r := by
  unfold updAt
  split
  · exact h
  next r hg =>
    split
    · exact h
    next r' hfr =>
      intro x hx
      rcases List.mem_or_eq_of_mem_set hx with hx | rfl
      · exact h x hx
      · exact hf r _ hfr (h r (List.mem_of_getElem? hg))

/-- a property of single records that holds initially and is kept by the steps of the caller, by arrivals and by the
    steps of the dispatch threads holds of every record in every reachable state -/
theorem run_inv {P : Rec → Prop} (h0 : P Rec.init) (hc : ∀ r r', callerStep r = some r' → P r → P r')
    (ha : ∀ r, r.sent = true → P r → P { r with disp := r.disp ++ [.check] })
    (hd : ∀ r r' j, dispStep r j = some r' → P r → P r') (as : List Act) : ∀ r ∈ run as, P r := by
  refine foldl_inv (P := fun s : Sys => ∀ r ∈ s, P r) (fun s a h => ?_) as [] (fun _ h => nomatch h)
  cases a with
  | caller i => exact updAt_mem hc h
  | arrive i =>
    refine updAt_mem (fun r r' hf hi => ?_) h
    split at hf
    next hs => cases hf; exact ha r hs hi
    · cases hf
  | disp i j => exact updAt_mem (fun r r' => hd r r' j) h
  | newRequest =>
    intro r hr
    rcases List.mem_append.1 hr with hr | hr
    · exact h r hr
    · cases List.mem_singleton.1 hr; exact h0
  | stray => exact h

theorem reachable_inv (as : List Act) : ∀ r ∈ run as, LInv r :=
  run_inv linv_init caller_inv arrive_inv disp_inv as

/-- the slot (and a returned result) refers to an answer that has actually arrived -/
def BInv (r : Rec) : Prop := ∀ k, r.slot = .answer k ∨ r.result = some (.answer k) → k < r.disp.length

/-- the caller leaves slot and dispatch threads alone, and returns what the slot holds -/
theorem callerStep_frame {r r' : Rec} (h : callerStep r = some r') :
    r'.slot = r.slot ∧ r'.disp = r.disp ∧ (r'.result = r.result ∨ r'.result = some r.slot) := by
  obtain ⟨cpc, reg, recv, stop, slot, disp, result⟩ := r
  cases cpc <;> simp only [callerStep] at h
  case waiting => split at h <;> cases h <;> simp
  all_goals cases h <;> simp

/-- a dispatch thread leaves the result and the number of threads alone; the only value it writes to the slot is its own number -/
theorem dispStep_frame {r r' : Rec} {j : Nat} (h : dispStep r j = some r') :
    j < r.disp.length ∧ r'.disp.length = r.disp.length ∧ r'.result = r.result ∧ (r'.slot = r.slot ∨ r'.slot = .answer j) := by
  unfold dispStep at h
  split at h
  · cases h
  next pc hd =>
    refine ⟨(List.getElem?_eq_some_iff.1 hd).1, ?_⟩
    cases pc <;> simp only at h
    case notified => split at h <;> cases h <;> simp
    all_goals cases h <;> simp

theorem reachable_binv (as : List Act) : ∀ r ∈ run as, BInv r := by
  refine run_inv (fun k => by simp [Rec.init]) (fun r r' h hi k => ?_) (fun r _ hi k e => ?_) (fun r r' j h hi k => ?_) as
  · obtain ⟨hs, hd, hr | hr⟩ := callerStep_frame h <;> rw [hs, hd, hr]
    · exact hi k
    · exact fun e => hi k (.inl (e.elim id Option.some.inj))
  · exact Nat.lt_of_lt_of_le (hi k e) (by simp)
  · obtain ⟨hj, hl, hr, hs | hs⟩ := dispStep_frame h <;> rw [hl, hr, hs]
    · exact hi k
    · exact fun e => e.elim (fun e => by cases e; exact hj) fun e => hi k (.inr e)

/-! ### the statement's clauses, for every interleaving, any number of callers and answers -/

theorem LInv.result_is_answer {r : Rec} (hi : LInv r) {v : Slot} (hv : r.result = some v) : ∃ k, v = .answer k := by
  cases v with
  | request => cases hi.result_answer _ hv
  | answer k => exact ⟨k, rfl⟩

theorem stopped_iff (c : CPc) : stopped c = true ↔ c = .stopSet ∨ c = .done := by
  cases c <;> simp [stopped]

/-- a caller that returns is given an answer that arrived for ITS identifier (records are keyed by the
    Hop-by-Hop identifier; `answer k` is the k-th answer that arrived carrying it) — never the
    request object it sent, never nothing -/
theorem returns_own_answer (as : List Act) (r : Rec) (hr : r ∈ run as) (v : Slot) (hv : r.result = some v) :
    ∃ k, v = .answer k ∧ k < r.disp.length := by
  obtain ⟨k, rfl⟩ := (reachable_inv as r hr).result_is_answer hv
  exact ⟨k, rfl, reachable_binv as r hr k (.inr hv)⟩

/-- no answer is lost while its caller waits: as long as the caller has not been released
    (`stop_event` not yet set) the registry holds its entry, so a dispatch thread checking it finds it -/
theorem waiting_caller_is_registered (as : List Act) (r : Rec) (hr : r ∈ run as)
    (hw : r.cpc = .registered ∨ r.cpc = .waiting ∨ r.cpc = .woke ∨ r.cpc = .cleared) : r.reg = true := by
  have hi := reachable_inv as r hr
  apply hi.reg_until_stop
  · rcases hw with h | h | h | h <;> simp [h]
  · rw [hi.stop_iff]; rcases hw with h | h | h | h <;> rw [h] <;> rfl

/-- no dispatch thread drops an answer (or fails on a missing entry) before the caller has been woken
    and has released it -/
theorem no_drop_before_release (as : List Act) (r : Rec) (hr : r ∈ run as) (h : r.disp.any lost = true) :
    r.cpc = .stopSet ∨ r.cpc = .done := by
  have hi := reachable_inv as r hr
  exact (stopped_iff _).1 (hi.stop_iff.symm.trans (hi.lost_after_stop h))

/-- a caller whose answer has been dispatched (some dispatch thread has set the wake-up event) is not
    left blocked: it is either past the wait or its wait is enabled -/
theorem dispatched_caller_wakes (as : List Act) (r : Rec) (hr : r ∈ run as) (h : r.disp.any hasNotified = true) :
    r.cpc ≠ .waiting ∨ (callerStep r).isSome = true := by
  by_cases hw : r.cpc = .waiting
  · exact .inr (by simp [callerStep, hw, (reachable_inv as r hr).notified_wakes h hw])
  · exact .inl hw

/-- what a blocked caller looks like -/
theorem callerStep_eq_none {r : Rec} (h : callerStep r = none) : r.cpc = .done ∨ (r.cpc = .waiting ∧ r.recv = false) := by
  obtain ⟨cpc, reg, recv, stop, slot, disp, result⟩ := r
  cases cpc <;> simp [callerStep] at h ⊢
  exact h

/-- what a blocked dispatch thread looks like -/
theorem dispStep_eq_none {r : Rec} {j : Nat} {d : DPc} (h : dispStep r j = none) (hd : r.disp[j]? = some d) :
    d = .done ∨ lost d = true ∨ (d = .notified ∧ r.stop = false) := by
  unfold dispStep at h
  simp only [hd] at h
  cases d <;> simp at h <;> simp [lost, h]

/-- a record that satisfies the invariant and in which nothing can move: if an answer has arrived, the caller has
    returned with an answer and every dispatch thread has finished -/
theorem LInv.quiescent {r : Rec} (hi : LInv r) (hne : r.disp ≠ []) (hq : r.quiescent = true) :
    r.cpc = .done ∧ (∃ k, r.result = some (.answer k)) ∧ r.disp.all finished = true := by
  simp only [Rec.quiescent, Bool.and_eq_true, Option.isNone_iff_eq_none, List.all_eq_true, List.mem_range] at hq
  obtain ⟨hc, hd⟩ := hq
  have hdisp : ∀ d ∈ r.disp, d = .done ∨ lost d = true ∨ (d = .notified ∧ r.stop = false) := fun d hm => by
    obtain ⟨j, hj⟩ := List.getElem?_of_mem hm
    exact dispStep_eq_none (hd j (List.getElem?_eq_some_iff.1 hj).1) hj
  have hdone : r.cpc = .done := by
    refine (callerStep_eq_none hc).resolve_right fun ⟨hw, hrecv⟩ => ?_
    -- waiting without wake-up: any thread has either notified, then `recv` is set, or missed the entry, then `stop` is set
    obtain ⟨d, hm⟩ := List.exists_mem_of_ne_nil _ hne
    have ht := hi.thread hm
    rcases hdisp d hm with rfl | hl | ⟨rfl, _⟩
    · exact nomatch hrecv.symm.trans (ht.wakes rfl hw)
    · have hst : r.stop = false := by rw [hi.stop_iff, hw]; rfl
      exact nomatch hst.symm.trans (ht.lost_stop hl)
    · exact nomatch hrecv.symm.trans (ht.wakes rfl hw)
  have hstop : r.stop = true := by rw [hi.stop_iff, hdone]; rfl
  refine ⟨hdone, ?_, List.all_eq_true.2 fun d hm => ?_⟩
  · obtain ⟨v, hv⟩ := Option.isSome_iff_exists.1 (hi.result_done.trans (by rw [hdone]; rfl))
    obtain ⟨k, rfl⟩ := hi.result_is_answer hv
    exact ⟨k, hv⟩
  · rcases hdisp d hm with rfl | hl | ⟨_, hs⟩
    · rfl
    · revert hl; cases d <;> decide
    · exact nomatch hstop.symm.trans hs

/-- ALWAYS WAKES (no deadlock): in every reachable state, a record for which at least one answer has
    arrived and in which nothing can move any more has a caller that has returned — with an answer —
    and every dispatch thread has finished -/
theorem quiescent_means_done (as : List Act) (r : Rec) (hr : r ∈ run as) (hne : r.disp ≠ [])
    (hq : r.quiescent = true) : r.cpc = .done ∧ (∃ k, r.result = some (.answer k)) ∧ r.disp.all finished = true :=
  (reachable_inv as r hr).quiescent hne hq

/-- each answer wakes at most one caller and a caller returns once: the result, once set, is final -/
theorem result_final (r r' : Rec) (h : callerStep r = some r') (v : Slot) (hv : r.result = some v) (hi : LInv r) : False := by
  have hd : r.cpc = .done := by simpa [hv] using hi.result_done.symm
  simp [callerStep, hd] at h

/-! ### non-vacuity and the pinned defect as a model fact -/

-- a complete exchange: register, queue, answer arrives, dispatch, wake, release, pop
def demo : List Act :=
  [.newRequest, .caller 0, .caller 0, .arrive 0, .disp 0 0, .disp 0 0, .disp 0 0, .disp 0 0, .caller 0, .caller 0, .caller 0, .disp 0 0, .disp 0 0, .caller 0]
example : (run demo).map (·.result) = [some (.answer 0)] ∧ (run demo).map (·.quiescent) = [true] := by decide
-- two callers, answers dispatched in the opposite order, a duplicate answer for the first
example : ((run [.newRequest, .newRequest, .caller 0, .caller 1, .caller 0, .caller 1, .arrive 1, .arrive 0, .arrive 0,
    .disp 1 0, .disp 1 0, .disp 1 0, .disp 1 0, .disp 0 1, .disp 0 1, .disp 0 1, .disp 0 1, .caller 1, .caller 0]).map (·.cpc)) = [.woke, .woke] := by decide

/-! ### the order of the pinned tree (queue the request first, register the waiter second) does NOT
have the property: a concrete schedule in which the answer is dropped and the caller waits for ever -/

/-- caller step of the pinned tree: `set_outgoing_message` before `insert_pending_answer` -/
def callerStepPinned (r : Rec) : Option Rec :=
  match r.cpc with
  | .start => some { r with cpc := .registered }                    -- request queued, waiter not yet registered
  | .registered => some { r with cpc := .waiting, reg := true }      -- now registered, goes to wait
  | _ => callerStep r

/-- in the pinned order the peer can answer as soon as the request is queued -/
def sentPinned (r : Rec) : Bool := match r.cpc with | .start => false | _ => true

def pinnedRun : Rec :=
  -- caller queues the request; the answer arrives and is checked before the waiter is registered; then the caller registers and waits
  let r0 := Rec.init
  let r1 := (callerStepPinned r0).getD r0
  let r2 := if sentPinned r1 then { r1 with disp := r1.disp ++ [.check] } else r1
  let r3 := (dispStep r2 0).getD r2
  let r4 := (callerStepPinned r3).getD r3
  r4

/-- the answer has been dropped, nothing can move, and the caller is still waiting: the statement's
    "a caller whose answer has arrived is always woken" fails for the pinned order -/
theorem pinned_order_loses_wakeup :
    pinnedRun.cpc = .waiting ∧ pinnedRun.disp = [.dropped] ∧ (callerStepPinned pinnedRun).isNone = true ∧
    (dispStep pinnedRun 0).isNone = true := by decide

end BV.C14

