import BromeliaVerif.Proofs.ParseSafe
import BromeliaVerif.Proofs.Framing
import BromeliaVerif.Model.Worker
import BromeliaVerif.Gen.Dictionary
/-! C03 — malformed input is rejected cleanly and never wedges the decoder.

`Parse.loadAvps` and `Parse.loadMsgs` are the models of `DiameterAVP.load` / `DiameterMessage.load`
on ARBITRARY byte strings. They are defined by well-founded recursion on the length of the input:
Lean accepts the definitions only because every loop iteration provably consumes at least 8 resp. 20
bytes (`parse_progress`, and the `decreasing_by` proofs in `Model/Parse.lean`) — the pinned code had
no such argument for the message loop (Message Length 0 looped forever; repaired, see
known_findings.json). -/
namespace BV.C03
open BV BV.Dict BV.Parse

/-- each iteration of the AVP loop consumes at least 8 bytes; the data it hands to a nested decode
    is strictly shorter than the input -/
theorem parse_progress {s : Bytes} {a : Avp} {rest : Bytes} (h : parseOne s = .ok (a, rest)) :
    rest.length + 8 ≤ s.length ∧ a.data.length + 8 ≤ s.length := ⟨(parseOne_ok h).1, (parseOne_ok h).2.1⟩

/-- ∀ byte strings: AVP decoding returns or raises a library error, never a foreign exception -/
theorem avps_errors_are_library (s : Bytes) (e : Err) (h : loadAvps Gen.dictionary s = .error e) : e.notStd :=
  loadAvps_errors_are_library Gen.dictionary s e h

/-- ∀ byte strings: message decoding returns or raises a library error -/
theorem msgs_errors_are_library (s : Bytes) (e : Err) (h : loadMsgs Gen.dictionary s = .error e) : e.notStd := by
  simpa only [h] using loadMsgs_safe Gen.dictionary s

/-- step / output bound depending only on the input length: at most len/8 AVP objects over all
    nesting levels (= loop iterations of a successful decode), at most len/20 messages -/
theorem output_bounded (s : Bytes) :
    (∀ as, loadAvps Gen.dictionary s = .ok as → 8 * nodesList as ≤ s.length) ∧
    (∀ ms, loadMsgs Gen.dictionary s = .ok ms → 20 * ms.length ≤ s.length) :=
  ⟨fun as h => by simpa only [h] using loadAvps_safe Gen.dictionary s,
   fun ms h => by simpa only [h] using loadMsgs_safe Gen.dictionary s⟩

/-- a Message Length below 20 (the former infinite loop) and a truncated header are rejected -/
theorem short_length_rejected (s : Bytes) (hs : s ≠ []) (h : s.length < 20 ∨ (parseHeader (s.take 20)).length < 20) :
    loadMsgs Gen.dictionary s = .error .parsing := by
  rw [loadMsgs_eq, if_neg hs, if_pos h]

-- non-vacuity / concrete malformed inputs: Message Length 0 (the former hang) and a 4-byte stream
example : loadMsgs Gen.dictionary (List.replicate 20 0) = .error .parsing :=
  short_length_rejected _ (by decide) (Or.inr (by decide))
example : loadMsgs Gen.dictionary [1, 0, 0, 19] = .error .parsing :=
  short_length_rejected _ (by decide) (Or.inl (by decide))

open BV.Worker

/-- live connection, receive worker: for every byte string handed over by the transport and every
    carried partial message the worker survives the iteration and the association lock is released -/
theorem worker_step_safe (carry s : Bytes) :
    (step Gen.dictionary carry s).alive = true ∧ (step Gen.dictionary carry s).lockHeld = false := by
  unfold step
  cases h : loadMsgs Gen.dictionary (splitData (carry ++ s)).1 with
  | ok ms => simp [finish]
  | error e =>
    have := msgs_errors_are_library _ e h
    cases e <;> simp_all [Err.notStd, finish]

/-- nothing is enqueued from a stream that fails to decode; a decodable stream is enqueued in order -/
theorem worker_enqueues (carry s : Bytes) :
    (step Gen.dictionary carry s).enqueued =
      (match loadMsgs Gen.dictionary (splitData (carry ++ s)).1 with | .ok ms => ms | .error _ => []) := by
  unfold step
  cases h : loadMsgs Gen.dictionary (splitData (carry ++ s)).1 with
  | ok ms => rfl
  | error e => cases e <;> rfl

/-- no byte is dropped by the split: complete part and carried part make up the data (unless the data is
    handed over whole because it cannot be framed) -/
theorem split_keeps_bytes (s : Bytes) : (splitData s).1 ++ (splitData s).2 = s ∨ (splitData s) = (s, []) := by
  unfold splitData
  simp only
  split
  · exact .inr rfl
  · exact .inl (Inbound.splitStream_keeps _ _)

end BV.C03
