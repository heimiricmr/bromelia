import BromeliaVerif.Proofs.Container
/-! C11 — a message's named AVP view, AVP list and length stay coherent under mutation.

Model: `Model/Container.lean` (the container of `DiameterMessage` after the repairs listed in
known_findings.json: pop by identity, smallest unused suffix, `__setitem__`/`update_avp` rebinding the
name, `cleanup` subtracting the listed AVPs). `Coherent` is the statement's invariant. -/
namespace BV.C11
open BV.Container

/-- after EVERY sequence of container operations (append, extend, pop, cleanup, replacing the list,
    item assignment, key renaming, data update, refresh) on an empty message: distinct listed objects,
    distinct names, one name per listed object and none for an unlisted one, Message Length = 20 + the
    padded sizes of the listed AVPs (= the size of the serialised message, C01) -/
theorem coherent (ops : List Op) (hf : freshRun empty ops) : Coherent (ops.foldl apply empty) :=
  run_coherent ops empty coherent_empty hf

/-- the same from any coherent state (e.g. a typed message as built by its constructor) -/
theorem coherent_from (c : Cont) (hc : Coherent c) (ops : List Op) (hf : freshRun c ops) :
    Coherent (ops.foldl apply c) := run_coherent ops c hc hf

/-- membership queries agree with both views: a name is reported present exactly when it is bound to
    a listed object -/
theorem has_avp_agrees (c : Cont) (hc : Coherent c) (k : Key) :
    hasKey c k = true ↔ ∃ o ∈ c.avps, (k, o.id) ∈ c.names := by
  rw [hasKey_iff]
  constructor
  · rintro ⟨_, hk⟩
    obtain ⟨⟨k', i⟩, hm, rfl⟩ := List.mem_map.mp hk
    obtain ⟨o, ho, rfl⟩ := List.mem_map.mp ((hc.refs_iff i).mp (List.mem_map_of_mem hm))
    exact ⟨o, ho, hm⟩
  · rintro ⟨o, ho, hm⟩
    exact ⟨List.ne_nil_of_mem ho, List.mem_map_of_mem hm⟩

/-- relative order: removing keeps the remaining AVPs in their order; adding appends at the end;
    replacing keeps every other position -/
theorem order_preserved (c : Cont) (hc : Coherent c) :
    (∀ k c', pop c k = .ok c' → c'.avps.Sublist c.avps) ∧
    (∀ o c', o.id ∉ ids c → append c o = .ok c' → c'.avps = c.avps ++ [o]) ∧
    (∀ os c', (∀ o ∈ os, o.id ∉ ids c) → (os.map (·.id)).Nodup → extend c os = .ok c' → c'.avps = c.avps ++ os) ∧
    (∀ i o c', o.id ∉ ids c → setItem c i o = .ok c' → c'.avps = c.avps.set i o) ∧
    (∀ a b c', updateKey c a b = .ok c' → c'.avps = c.avps) :=
  ⟨fun _ _ h => (pop_coherent hc h).2, fun _ _ hf h => (append_coherent hc hf h).2,
   fun os _ hf hn h => (extend_coherent os hc hf hn h).2, fun _ _ _ hf h => (setItem_coherent hc hf h).2,
   fun _ _ _ h => (updateKey_coherent hc h).2⟩

/-- the named object is the one removed by `pop`, not another one with equal contents -/
theorem pop_removes_named (c c' : Cont) (hc : Coherent c) (k : Key) (i : Nat) (hk : c.names.lookup k = some i)
    (h : pop c k = .ok c') : i ∉ ids c' ∧ ∀ j ∈ ids c, j ≠ i → j ∈ ids c' := by
  obtain ⟨i', _, hi, _, rfl⟩ := pop_ok h
  cases hk.symm.trans hi
  simp only [ids, List.mem_map, List.mem_filter, bne_iff_ne, ne_eq, not_exists, not_and]
  refine ⟨fun x hx e => hx.2 e, ?_⟩
  rintro j ⟨p, hp, rfl⟩ hne
  exact ⟨p, ⟨hp, hne⟩, rfl⟩

/-- `update_avp(name, value)` replaces the object the name refers to — found by identity, not by
    equal contents — at its own position; every other position keeps its object, and only names of
    the replaced object are rebound -/
theorem update_avp_targets_named (c c' : Cont) (k : Key) (i : Nat) (o : Obj) (hk : c.names.lookup k = some i)
    (h : updateAvp c k o = .ok c') :
    ∃ idx old, c.avps[idx]? = some old ∧ old.id = i ∧ c'.avps = c.avps.set idx o ∧ c'.names = rebind c.names i o.id := by
  obtain ⟨i', idx, hi, hidx, h⟩ := updateAvp_ok h
  cases hk.symm.trans hi
  obtain ⟨old, hget, rfl⟩ := setItem_ok h
  obtain ⟨hlt, hp, _⟩ := List.findIdx?_eq_some_iff_getElem.mp hidx
  cases (List.getElem?_eq_getElem hlt).symm.trans hget
  obtain rfl : c.avps[idx].id = i := by simpa using hp
  exact ⟨idx, _, hget, rfl, rfl, rfl⟩

-- non-vacuity: two equal-sized objects of the same class, pop the SECOND one, append a third
def a1 : Obj := ⟨1, "origin_host_avp", 16⟩
def a2 : Obj := ⟨2, "origin_host_avp", 16⟩
def a3 : Obj := ⟨3, "origin_host_avp", 16⟩
def demo : List Op := [.append a1, .append a2, .pop ("origin_host_avp", 1), .append a3, .setItem 0 ⟨4, "x_avp", 12⟩]

example : freshRun empty demo ∧
    (demo.foldl apply empty).avps.map (·.id) = [4, 3] ∧
    (demo.foldl apply empty).names = [(("origin_host_avp", 0), 4), (("origin_host_avp", 1), 3)] ∧
    (demo.foldl apply empty).length = 48 := by
  refine ⟨?_, by decide, by decide, by decide⟩
  simp only [demo, freshRun, Op.fresh, Op.objs]
  decide

end BV.C11
