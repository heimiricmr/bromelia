import BromeliaVerif.Proofs.Decorate
import BromeliaVerif.Properties.C17
/-! C12 — answers leaving a route carry the request's identity and a correct error flag. -/
namespace BV.C12
open BV BV.Decorate BV.ResultCode BV.Spec

/-- the handler's answer is well-formed for decoration: it is an answer (R clear) whose Message
    Length matches its content. (It may or may not carry a Session-Id AVP; it may already carry the E
    flag.) -/
def Pre (a : Ans) (_r : Req) : Prop :=
  rbit a.flags = false ∧ a.length = msgSize a

/-- the error families, numerically (C17) -/
theorem errorFamily_iff (rc : Option Nat) :
    errorFamily rc = true ↔ ∃ n, rc = some n ∧ (inFamily 3 n ∨ inFamily 4 n ∨ inFamily 5 n) := by
  cases rc with
  | none => simp [errorFamily]
  | some n => simp [errorFamily, BV.C17.model_family_iff, or_assoc]

/-- under the guard decoration always succeeds: whatever the handler's answer carries, one answer can
    be sent -/
theorem decorate_ok (a : Ans) (r : Req) (h : Pre a r) : ∃ o, decorate a r = .ok o :=
  ⟨_, (decorate_eq a r).trans (if_neg fun hg => by simp [h.1] at hg)⟩

/-- identity: Application-ID, Hop-by-Hop and End-to-End of the request; its Session-Id when it has one -/
theorem decorate_identity (a o : Ans) (r : Req) (h : decorate a r = .ok o) :
    o.app = r.app ∧ o.hbh = r.hbh ∧ o.e2e = r.e2e ∧ (∀ d, r.session = some d → o.session = some d) := by
  cases eq_decorated h
  rw [decorated, dropRc_eq]
  exact ⟨rfl, rfl, rfl, fun d hd => by simp [hd]⟩

/-- error flag: for an answer that arrives with the E flag clear it is set exactly when the handler's
    Result-Code is in the 3xxx, 4xxx or 5xxx family — for every code (numeric families by C17); an E
    flag the handler set itself is kept -/
theorem error_flag_iff_family (a o : Ans) (r : Req) (he : ebit a.flags = false) (h : decorate a r = .ok o) :
    ebit o.flags = true ↔ ∃ n, a.resultCode = some n ∧ (inFamily 3 n ∨ inFamily 4 n ∨ inFamily 5 n) := by
  cases eq_decorated h
  rw [← errorFamily_iff, decorated, dropRc_eq]
  by_cases hf : errorFamily a.resultCode = true <;> simp [hf, he, ebit_add32]

theorem preset_error_flag_kept (a o : Ans) (r : Req) (he : ebit a.flags = true) (h : decorate a r = .ok o) :
    o.flags = a.flags := by
  cases eq_decorated h
  rw [decorated, dropRc_eq]
  simp [he]

/-- a Result-Code is never sent alongside an Experimental-Result -/
theorem no_result_code_with_experimental (a o : Ans) (r : Req) (h : decorate a r = .ok o) :
    ¬ (o.hasExp = true ∧ o.resultCode.isSome = true) := by
  cases eq_decorated h
  rw [decorated, dropRc_eq]
  rintro ⟨hx, hrc⟩
  simp [show a.hasExp = true from hx] at hrc

/-- the Message Length of the sent answer matches its final content -/
theorem length_matches (a o : Ans) (r : Req) (hp : Pre a r) (h : decorate a r = .ok o) : o.length = msgSize o := by
  cases eq_decorated h
  apply dropRc_length
  -- a Session-Id written by step 2 comes with a refreshed length; identifiers and flags do not count
  cases hs : r.session with
  | none => simpa [msgSize] using hp.2
  | some d => simp [msgSize]

/-- outside the guard: an "answer" with the R bit set and an error-family Result-Code raises the
    library's header error -/
theorem guard_errors (a : Ans) (r : Req) (hf : errorFamily a.resultCode = true) (he : ebit a.flags = false)
    (hr : rbit a.flags = true) : decorate a r = .error .header :=
  (decorate_eq a r).trans (if_pos ⟨hf, he, hr⟩)

/-- an answer without Session-Id AVP gets the request's Session-Id added -/
theorem session_added (a o : Ans) (r : Req) (d : Bytes) (hs : r.session = some d) (h : decorate a r = .ok o) :
    o.session = some d := (decorate_identity a o r h).2.2.2 d hs

-- non-vacuity: DIAMETER_UNABLE_TO_COMPLY (5012) gets the error flag and the request's identity
example : ∃ o, decorate ⟨0x40, some 1, some 0, some 0, some [1], some 5012, false, 40, 20 + 40 + 12 + 12⟩
    ⟨some 16777251, some 7, some 9, some [2, 3]⟩ = .ok o ∧ o.flags = 0x60 ∧ o.app = some 16777251 ∧
    o.session = some [2, 3] ∧ o.length = 84 := ⟨_, rfl, by decide, rfl, rfl, by decide⟩
example : Pre ⟨0x40, some 1, some 0, some 0, some [1], some 5012, false, 40, 20 + 40 + 12 + 12⟩
    ⟨some 16777251, some 7, some 9, some [2, 3]⟩ := by
  refine ⟨by decide, by decide⟩

end BV.C12
