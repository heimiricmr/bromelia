import BromeliaVerif.Gen.PsmGen
import BromeliaVerif.Gen.MsgKinds
import BromeliaVerif.Proofs.PsmRef
import BromeliaVerif.Proofs.PsmNorm
import BromeliaVerif.Properties.C06
import BromeliaVerif.Properties.C07
/-! Tie (a) for the peer state machine (C06, C07, the state-machine part of C08).

`Gen/PsmGen.lean` is regenerated from `bromelia/statemachine.py` on every run. The obligations of this file are
re-checked against it:

* `code_is_reference`: the kernel DECIDES that the program translated from the code as it is now is the reviewed
  reference translation (`Model/PsmRef.lean`), class by class — any change of a condition, of the order of the tests, of a
  helper's flags, of an emitted message, of a next state, of where `self.msg` is read changes the translated term;
* hence (with the static `Proofs/PsmRef.lean`) one iteration of the loop of
  `PeerStateMachine.__start` AS TRANSLATED refines `tick` of the hand model for every node state, and every execution of
  the translated loop, interleaved with any environment events, stays equal to the hand model's run up to the ghost fields;
* hence the history-level theorems of C06 and C07 hold of every execution of the translated code. -/
namespace BV.C06Gen
open BV.Psm BV.PsmT BV.PsmRefProof

/-- the code as translated now IS the reference translation, up to the verified normal form (`Proofs/PsmNorm.lean`:
statements regrouped, helper flags instantiated, equal branches merged) — decided by the kernel on the regenerated file -/
theorem code_is_reference :
    (∀ s : St, (BV.Gen.Psm.runProg s).norm = (BV.PsmRef.runProg s).norm) ∧
      BV.Gen.Psm.nextProg.norm = BV.PsmRef.nextProg.norm := by
  refine ⟨fun s => ?_, ?_⟩
  · cases s <;> decide
  · decide

theorem code_run_exec (V : Verd) (s : St) (ps : PS) :
    (BV.Gen.Psm.runProg s).exec V ps = (BV.PsmRef.runProg s).exec V ps :=
  Prog.exec_congr_norm V _ _ (code_is_reference.1 s) ps

theorem code_next_exec (V : Verd) (ps : PS) : BV.Gen.Psm.nextProg.exec V ps = BV.PsmRef.nextProg.exec V ps :=
  Prog.exec_congr_norm V _ _ code_is_reference.2 ps

/-- one iteration of the loop of `PeerStateMachine.__start`, as translated from the code: `current_state.run()`, then
`current_state = get_next_state(current_state.next_state)`; `nx nm mg` are whatever the state object's `next_state`,
`name` and `msg` attributes held from earlier iterations -/
def tickCode (V : Verd) (n : Node) (nx nm : St) (mg : Option PMsg) : PS :=
  BV.Gen.Psm.nextProg.exec V ((BV.Gen.Psm.runProg n.st).exec V (PS.start n nx nm mg))

/-- `run()` of every state class, as translated from the code, refines the hand model: no escaped exception, no
blocking `get()`, `name` = own state, next state and node as `runState` says -/
theorem code_run_refines (V : Verd) (hV : Sound V) (n : Node) (nx nm : St) (mg : Option PMsg) :
    Agrees ((BV.Gen.Psm.runProg n.st).exec V (PS.start n nx nm mg)) n.st (runState n) := by
  rw [code_run_exec]
  exact ref_run_refines V n nx nm mg hV

/-- one loop iteration of the translated code = `tick` of the hand model (up to ghost fields), for EVERY node state -/
theorem code_tick_refines (V : Verd) (hV : Sound V) (n : Node) (nx nm : St) (mg : Option PMsg) (hr : n.running = true) :
    (tickCode V n nx nm mg).err = false ∧ (tickCode V n nx nm mg).stuck = false ∧
      erase (tickCode V n nx nm mg).n = erase (tick n) ∧ (tickCode V n nx nm mg).ret = some (tickCode V n nx nm mg).n.st := by
  obtain ⟨he, hs, _, hname, hnext, hn⟩ := code_run_refines V hV n nx nm mg
  obtain ⟨he2, hs2, hn2, hr2⟩ := ref_next_refines V ((BV.Gen.Psm.runProg n.st).exec V (PS.start n nx nm mg)) he
  unfold tickCode
  rw [code_next_exec]
  refine ⟨he2, by rw [hs2, hs], ?_, hr2⟩
  rw [hn2, hname, hnext, ← goto_erase, hn, goto_erase]
  simp [tick, hr]

/-- every execution of the translated loop: environment events between iterations, arbitrary leftovers in the state
objects at each iteration -/
inductive CodeRun (V : Verd) (role : Role) : List Ev → Node → Prop
  | init : CodeRun V role [] (init role)
  | env (evs : List Ev) (n : Node) (e : Ev) : CodeRun V role evs n → e ≠ .tick → CodeRun V role (evs ++ [e]) (apply n e)
  | idle (evs : List Ev) (n : Node) : CodeRun V role evs n → n.running = false → CodeRun V role (evs ++ [.tick]) n
  | tick (evs : List Ev) (n : Node) (nx nm : St) (mg : Option PMsg) :
      CodeRun V role evs n → n.running = true → CodeRun V role (evs ++ [.tick]) (tickCode V n nx nm mg).n

theorem run_snoc (role : Role) (evs : List Ev) (e : Ev) : run role (evs ++ [e]) = apply (run role evs) e := by
  simp [run]

/-- SIMULATION: whatever the translated code does along a history is what the hand model does (up to ghost fields) -/
theorem code_run_simulates (V : Verd) (hV : Sound V) (role : Role) (evs : List Ev) (n : Node)
    (h : CodeRun V role evs n) : erase n = erase (run role evs) := by
  induction h with
  | init => rfl
  | env evs n e _ _ ih => rw [run_snoc, ← apply_erase, ih, apply_erase]
  | idle evs n _ hr ih =>
    have hrun : (run role evs).running = false := (congrArg Node.running ih).symm.trans hr
    simp [run_snoc, apply, tick, hrun, ih]
  | tick evs n nx nm mg _ hr ih =>
    rw [(code_tick_refines V hV n nx nm mg hr).2.2.1, run_snoc, ← tick_erase, ih, tick_erase]; rfl

/-- the translated loop never dies of an escaped exception and never blocks on an empty queue -/
theorem code_never_raises_or_blocks (V : Verd) (hV : Sound V) (n : Node) (nx nm : St) (mg : Option PMsg)
    (hr : n.running = true) : (tickCode V n nx nm mg).err = false ∧ (tickCode V n nx nm mg).stuck = false :=
  ⟨(code_tick_refines V hV n nx nm mg hr).1, (code_tick_refines V hV n nx nm mg hr).2.1⟩

/-- C06 on the translated code: in every execution, Open (or Closing) is reported only if the history contains an
inbound CER / CEA that passed the validity predicate -/
theorem code_open_needs_valid_cex (V : Verd) (hV : Sound V) (role : Role) (evs : List Ev) (n : Node)
    (h : CodeRun V role evs n) (ho : n.st = .opened ∨ n.st = .closing) :
    ∃ m, Ev.inject m ∈ evs ∧ m.valid = true ∧ (m.kind = .cer ∨ m.kind = .cea) := by
  have hs : n.st = (run role evs).st := (congrArg Node.st (code_run_simulates V hV role evs n h) :)
  exact BV.C06.open_needs_valid_cex_in_history role evs (hs ▸ ho)

/-- C06/C08 on the translated code: once the loop has stopped the transport has been released -/
theorem code_closed_implies_released (V : Verd) (hV : Sound V) (role : Role) (evs : List Ev) (n : Node)
    (h : CodeRun V role evs n) (hr : n.running = false) : n.st = .closed ∧ n.tr = none := by
  have he := code_run_simulates V hV role evs n h
  have hr' : (run role evs).running = false := ((congrArg Node.running he :) : n.running = _).symm.trans hr
  rw [show n.st = _ from (congrArg Node.st he :), show n.tr = _ from (congrArg Node.tr he :)]
  exact BV.C06.closed_implies_released role evs hr'

/-- C07 on the translated code: in every execution the answers written to the transport are, in order, exactly the
answers owed to the valid CER / DWR / DPR consumed, and none is left in the send queue -/
theorem code_answers_match_requests (V : Verd) (hV : Sound V) (role : Role) (evs : List Ev) (n : Node)
    (h : CodeRun V role evs n) :
    BV.C07.answers n.emitted = (run role evs).answered.map BV.C07.ansOf ∧ BV.C07.answers n.sendq = [] := by
  have he := code_run_simulates V hV role evs n h
  rw [show n.emitted = _ from (congrArg Node.emitted he :), show n.sendq = _ from (congrArg Node.sendq he :)]
  exact ⟨(BV.C07.answers_match_requests role evs).1, BV.C07.no_answer_waits role evs⟩

/-! ### the message-kind helpers of utils.py (what `has_recv_cer(self.msg)` … mean), translated on this run -/

/-- the kind of a message, read off the R flag and the command code (RFC 6733: 257 CE, 280 DW, 282 DP) -/
def kindOfHeader (isReq : Bool) (cmd : Nat) : Kind :=
  if cmd = 257 then (if isReq then .cer else .cea)
  else if cmd = 280 then (if isReq then .dwr else .dwa)
  else if cmd = 282 then (if isReq then .dpr else .dpa)
  else (if isReq then .appReq else .appAns)

/-- each helper, as translated from the code, recognises exactly its kind — for every flag combination and command code -/
theorem code_kinds_classify (r p : Bool) (c : Nat) :
    BV.Gen.Kinds.isCer r p c = (kindOfHeader r c == .cer) ∧ BV.Gen.Kinds.isCea r p c = (kindOfHeader r c == .cea) ∧
    BV.Gen.Kinds.isDwr r p c = (kindOfHeader r c == .dwr) ∧ BV.Gen.Kinds.isDwa r p c = (kindOfHeader r c == .dwa) ∧
    BV.Gen.Kinds.isDpr r p c = (kindOfHeader r c == .dpr) ∧ BV.Gen.Kinds.isDpa r p c = (kindOfHeader r c == .dpa) ∧
    BV.Gen.Kinds.isAnswer r p c = !r ∧ BV.Gen.Kinds.isRequest r p c = r := by
  unfold BV.Gen.Kinds.isCer BV.Gen.Kinds.isCea BV.Gen.Kinds.isDwr BV.Gen.Kinds.isDwa BV.Gen.Kinds.isDpr BV.Gen.Kinds.isDpa
    BV.Gen.Kinds.isAnswer BV.Gen.Kinds.isRequest kindOfHeader
  by_cases h1 : c = 257 <;> by_cases h2 : c = 280 <;> by_cases h3 : c = 282 <;> cases r <;> cases p <;> simp_all

/-- hence at most one of the six base-message helpers holds of any message: the order of the `elif` chain of `Open.run`
over them does not matter, and a message is an answer iff it is not a request -/
theorem code_kinds_exclusive (r p : Bool) (c : Nat) :
    ([BV.Gen.Kinds.isCer r p c, BV.Gen.Kinds.isCea r p c, BV.Gen.Kinds.isDwr r p c, BV.Gen.Kinds.isDwa r p c,
      BV.Gen.Kinds.isDpr r p c, BV.Gen.Kinds.isDpa r p c].filter id).length ≤ 1 ∧
    BV.Gen.Kinds.isAnswer r p c = !(BV.Gen.Kinds.isRequest r p c) := by
  obtain ⟨a, b, d, e, f, g, h, i⟩ := code_kinds_classify r p c
  rw [a, b, d, e, f, g, h, i]
  cases hk : kindOfHeader r c <;> simp

/-! ### `create_answer` of process.py (the meaning of the primitive `makeAnswer`), translated on this run -/

/-- the answer the model writes for a message of a given kind and identifiers -/
def answerOf (tmpl : String) (hbh e2e : Nat) : Option Out :=
  if tmpl = "cea" then some (.cea hbh e2e) else if tmpl = "dwa" then some (.dwa hbh e2e) else if tmpl = "dpa" then some (.dpa hbh e2e) else none

/-- `create_answer`, as translated from the code, picks the template of the message's command and copies BOTH identifiers
unconditionally: it is the primitive `createAnswer` of the translation target for every message of every kind whose header
carries that kind's command code -/
theorem code_create_answer (ps : PS) (m : PMsg) (r : Bool) (c : Nat) (hm : ps.msg = some m) (hk : m.kind = kindOfHeader r c) :
    BV.Gen.Kinds.copiesHbh = true ∧ BV.Gen.Kinds.copiesE2e = true ∧
    ((BV.Gen.Kinds.createAnswerTmpl c).bind fun t => answerOf t m.hbh m.e2e) = createAnswer ps := by
  refine ⟨by decide, by decide, ?_⟩
  unfold createAnswer BV.Gen.Kinds.createAnswerTmpl
  rw [hm]
  simp only [hk, kindOfHeader]
  by_cases h1 : c = 257 <;> by_cases h2 : c = 280 <;> by_cases h3 : c = 282 <;> cases r <;> simp_all [answerOf]

/-! non-vacuity: a sound verdict function exists, and a concrete execution of the translated code opens -/
def V0 : Verd := fun _ m => m.valid
theorem V0_sound : Sound V0 := sound_valid
example : (tickCode V0 { (init .server) with recvq := [BV.C06.cerOk] } .closed .closed none).n.st = .opened ∧
    (tickCode V0 { (init .server) with recvq := [BV.C06.cerOk] } .closed .closed none).n.emitted = [.cea 7 9] := by decide

end BV.C06Gen
