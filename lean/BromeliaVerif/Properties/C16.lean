import BromeliaVerif.Model.Session
import Std.Data.String.ToNat
/-! C16 — generated Session-Ids are unique for the life of the process and well-formed. -/
namespace BV.C16
open BV.Session

/-- the counters of the Session-Ids generated along a history are consecutive -/
theorem run_low (s : St) (ops : List Op) : (run s ops).map (·.low) = List.range' (s.id + 1) ops.length := by
  induction ops generalizing s with
  | nil => rfl
  | cons op ops ih => simp [run, ih, step, List.range'_succ]

/-- so whatever determines the counter is pairwise distinct along a history -/
theorem nodup_map_run {β : Type} {f : Sid → β} (hf : ∀ x y, f x = f y → x.low = y.low) (s : St) (ops : List Op) :
    ((run s ops).map f).Nodup := by
  have h : (run s ops).Pairwise (·.low < ·.low) := List.pairwise_map.1 (run_low s ops ▸ List.pairwise_lt_range')
  exact List.pairwise_map.2 (h.imp fun hlt he => Nat.ne_of_lt hlt (hf _ _ he))

/-- uniqueness: along every history of generations and bulk origin updates, for any identities (same
    or switching) at any rate, the generated Session-Ids are pairwise distinct — even their
    (high32, low32) parts alone are -/
theorem session_unique (s : St) (ops : List Op) : ((run s ops).map (fun x => (x.high, x.low))).Nodup :=
  nodup_map_run (fun _ _ h => (Prod.mk.inj h).2) s ops

theorem session_unique' (s : St) (ops : List Op) : (run s ops).Nodup :=
  List.map_id (run s ops) ▸ nodup_map_run (f := id) (fun _ _ h => congrArg Sid.low h) s ops

/-- form: identity;high32;low32;optional — the text starts with the given identity, followed by the
    decimal `init` and counter -/
theorem session_form (s : St) (op : Op) :
    let x := (step s op).2
    x.identity = op.identity ∧ render x = op.identity ++ ';' :: ((Nat.repr s.init).toList ++ ';' :: ((Nat.repr (s.id + 1)).toList ++ ";bromelia".toList)) ∧
    op.identity <+: render x := by
  refine ⟨rfl, by simp [render, step], ?_⟩
  simp only [render, step, List.append_assoc]
  exact List.prefix_append _ _

/-- the i-th generated id carries counter s.id + i + 1 (so a bulk update that switches identity does
    not restart the numbering) -/
theorem counter_monotone (s : St) (ops : List Op) (i : Nat) (h : i < (run s ops).length) :
    ((run s ops)[i]).low = s.id + i + 1 := by
  have := List.getElem_map (·.low) (l := run s ops) (i := i) (h := by simpa using h)
  simp only [run_low] at this
  rw [← this, List.getElem_range']; omega

-- non-vacuity: two identities interleaved with a switching bulk update, all within one second
example : (run ⟨3900000000, 0⟩ [.gen "a".toList, .gen "b".toList, .bulk "b".toList "a".toList, .bulk "a".toList "b".toList, .gen "a".toList]).map (·.low) = [1, 2, 3, 4, 5] := by
  decide

/-! ### uniqueness of the rendered texts, for identities that may themselves contain `;` -/

/-- a list cut at its LAST `;`: if the tails carry no `;`, equal texts have equal tails -/
theorem tail_eq_of_no_sep (a b d e : List Char) (hd : ';' ∉ d) (he : ';' ∉ e)
    (h : a ++ ';' :: d = b ++ ';' :: e) : d = e := by
  -- one of the two cuts is at or before the other; if it were strictly before, the other tail would hold a `;`
  have key : ∀ (c d e : List Char), ';' ∉ d → ';' :: d = c ++ ';' :: e → d = e := by
    intro c d e hd h
    cases c with
    | nil => exact (List.cons.inj h).2
    | cons _ c => exact absurd (by simp [(List.cons.inj h).2]) hd
  rcases List.append_eq_append_iff.1 h with ⟨c, _, h'⟩ | ⟨c, _, h'⟩
  · exact key c d e hd h'
  · exact (key c e d he h').symm

theorem no_sep_repr (n : Nat) : ';' ∉ (Nat.repr n).toList := by
  intro h
  rw [Nat.toList_repr] at h
  have := Nat.isDigit_of_mem_toDigits (by omega) (by omega) h
  revert this; decide

/-- the TEXT decides the counter: two rendered Session-Ids that are equal as strings have the same
    low word, whatever the identities are (identities may themselves contain `;`) -/
theorem render_low_inj (x y : Sid) (h : render x = render y) : x.low = y.low := by
  have hx : ∀ z : Sid, render z = ((z.identity ++ [';'] ++ (Nat.repr z.high).toList) ++ ';' :: (Nat.repr z.low).toList) ++ ";bromelia".toList := by
    intro z; simp [render, List.append_assoc]
  rw [hx x, hx y] at h
  have h1 := List.append_cancel_right h
  have := tail_eq_of_no_sep _ _ _ _ (no_sep_repr _) (no_sep_repr _) h1
  exact Nat.repr_injective (String.toList_inj.mp this)

/-- uniqueness at the level the statement speaks of — the generated TEXTS are pairwise distinct in
    every history, for arbitrary identities -/
theorem session_text_unique (s : St) (ops : List Op) : ((run s ops).map render).Nodup :=
  nodup_map_run render_low_inj s ops

-- non-vacuity: identities that contain the separator themselves
example : ((run ⟨1, 0⟩ [.gen "a;1".toList, .gen "a".toList]).map render).Nodup := session_text_unique _ _
end BV.C16
