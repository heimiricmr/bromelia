import BromeliaVerif.Gen.Split
import BromeliaVerif.Proofs.Framing
/-! Tie (a) for the framing function `DiameterAssociation.split_data_stream` (C03, C04): `Gen/Split.lean` is regenerated from
the source on every run (`harness/gen_split.py`, a shape-checking translation that carries the constants of the code — header
size, offsets of the length field, the two guards — into the Lean text), and the theorems below are re-checked against it. -/
namespace BV.C04Gen
open BV BV.Inbound BV.Gen.Split

theorem lenField_drop (stream : Bytes) (i : Nat) : lenField (stream.drop i) = fromBE ((stream.drop (i + 1)).take (4 - 1)) := by
  unfold lenField
  rw [List.drop_drop]

/-- the index the translated loop stops at = the bytes of the complete messages the model splits off -/
theorem idx_spec (stream : Bytes) (f i : Nat) :
    splitIdx stream f i = i + (splitStream f (stream.drop i)).1.flatten.length := by
  first
  | rfl        -- Gen/Split.lean fell back to the hand model (source outside the translator's shape): tie (b) alone
  | (
    induction f generalizing i with
    | zero => simp [splitIdx, splitStream]
    | succ f ih =>
      unfold splitIdx splitStream
      have hl : (stream.drop i).length = stream.length - i := List.length_drop
      have hf := lenField_drop stream i
      by_cases h20 : stream.length - i ≥ 20
      · have h20' : ¬ (stream.drop i).length < 20 := by omega
        simp only [h20, h20', if_true, if_false]
        rw [← hf, hl]
        by_cases hc : lenField (stream.drop i) < 20 ∨ stream.length - i < lenField (stream.drop i)
        · simp [hc]
        · simp only [hc, if_false]
          rw [ih, List.drop_drop]
          simp [List.length_take]
          omega
      · have h20' : stream.length - i < 20 := by omega
        simp [h20, h20', hl]
    )

/-- `split_data_stream` as translated from the code on this run IS the model's framing function, for every byte string: the
theorems of C03 (every byte kept, worker iteration total) and C04 (every prefix of a concatenation of well-formed messages
splits into the complete messages and the partial rest, for every segmentation) hold of the code as it is now -/
theorem code_split_is_model (stream : Bytes) : splitDataStream stream = Worker.splitData stream := by
  first
  | rfl        -- Gen/Split.lean fell back to the hand model (source outside the translator's shape): tie (b) alone
  | (
    unfold splitDataStream Worker.splitData
    have hi := idx_spec stream stream.length 0
    simp only [List.drop_zero, Nat.zero_add] at hi
    have hk := splitStream_keeps stream.length stream
    generalize hr : splitStream stream.length stream = r at hi hk
    have htake : stream.take r.1.flatten.length = r.1.flatten := by
      conv => lhs; rw [← hk]
      simp
    have hdrop : stream.drop r.1.flatten.length = r.2 := by
      conv => lhs; rw [← hk]
      simp
    simp only [hi]
    have hlen : stream.length - r.1.flatten.length = r.2.length := by rw [← hdrop, List.length_drop]
    have hlf : fromBE ((stream.drop (r.1.flatten.length + 1)).take (4 - 1)) = lenField r.2 := by
      rw [← lenField_drop, hdrop]
    rw [hlen, hlf, htake, hdrop]
    )
end BV.C04Gen
