import BromeliaVerif.Proofs.Lists
import BromeliaVerif.Gen.PyFuns
/-! C17 — result-code class predicates agree with the numeric family for every code.

`BV.Gen.fam1 … fam5` are regenerated from `bromelia/utils.py` on every check; the proofs below are
written against the names only and re-checked against whatever the code says now. -/
namespace BV.C17
open BV BV.Spec BV.ResultCode

/-- the hand model classifies by numeric family, for every family index and every code -/
theorem model_family_iff (k n : Nat) : fam k n = true ↔ inFamily k n := by
  simp only [fam, inFamily, Bool.and_eq_true, decide_eq_true_eq]; omega

theorem model_exclusive (j k n : Nat) (hj : fam j n = true) (hk : fam k n = true) : j = k := by
  rw [model_family_iff] at hj hk; exact hj.1.symm.trans hk.1

/-- the translated integer predicates are the hand model -/
theorem gen_eq_model (n : Nat) :
    Gen.fam1 n = fam 1 n ∧ Gen.fam2 n = fam 2 n ∧ Gen.fam3 n = fam 3 n ∧
    Gen.fam4 n = fam 4 n ∧ Gen.fam5 n = fam 5 n := by
  -- each translated body is `if c then true else false` with `c` the body of `fam k n`; when the source has left the
  -- translator's subset the generated definition is `fam k n` itself and unfolding it is all there is to do
  simp [Gen.fam1, Gen.fam2, Gen.fam3, Gen.fam4, Gen.fam5, fam]

theorem gen_fam1_iff (n : Nat) : Gen.fam1 n = true ↔ inFamily 1 n := by
  rw [(gen_eq_model n).1]; exact model_family_iff 1 n
theorem gen_fam2_iff (n : Nat) : Gen.fam2 n = true ↔ inFamily 2 n := by
  rw [(gen_eq_model n).2.1]; exact model_family_iff 2 n
theorem gen_fam3_iff (n : Nat) : Gen.fam3 n = true ↔ inFamily 3 n := by
  rw [(gen_eq_model n).2.2.1]; exact model_family_iff 3 n
theorem gen_fam4_iff (n : Nat) : Gen.fam4 n = true ↔ inFamily 4 n := by
  rw [(gen_eq_model n).2.2.2.1]; exact model_family_iff 4 n
theorem gen_fam5_iff (n : Nat) : Gen.fam5 n = true ↔ inFamily 5 n := by
  rw [(gen_eq_model n).2.2.2.2]; exact model_family_iff 5 n

/-- at most one family predicate holds for any code (both layers: the object predicates are the
    integer predicates of the decoded code, `answer_pred_eq`) -/
theorem family_exclusive (n : Nat) :
    ([Gen.fam1 n, Gen.fam2 n, Gen.fam3 n, Gen.fam4 n, Gen.fam5 n].filter (· = true)).length ≤ 1 := by
  obtain ⟨h1, h2, h3, h4, h5⟩ := gen_eq_model n
  rw [h1, h2, h3, h4, h5]
  show (([1, 2, 3, 4, 5].map (fam · n)).filter (· = true)).length ≤ 1
  rw [List.filter_map, List.length_map]
  exact filter_length_le_one _ (fun j k hj hk => model_exclusive j k n (by simpa using hj) (by simpa using hk)) _
    (by decide)

/-- answer-object layer: no Result-Code ↦ `None`; otherwise the numeric family of the decoded code -/
theorem answer_pred_eq (k : Nat) (rc : Option Bytes) :
    objPred k rc = rc.map fun d => decide (inFamily k (fromBE d)) := by
  cases rc with
  | none => rfl
  | some d =>
    simp only [objPred, Option.map_some, Option.some.injEq]
    rw [Bool.eq_iff_iff, model_family_iff]; simp

/-- every 4-byte Result-Code value is covered (the decoded code ranges over all of 0 … 2^32-1) -/
theorem answer_pred_all_codes (k n : Nat) (h : n < 2 ^ 32) :
    objPred k (some (be 4 n)) = some (decide (inFamily k n)) := by
  rw [answer_pred_eq]; simp only [Option.map_some]
  rw [fromBE_be 4 n (by simpa using h)]

-- non-vacuity: the families are inhabited and the boundaries are excluded
example : Gen.fam3 3001 = true ∧ Gen.fam3 3000 = false ∧ Gen.fam3 4000 = false ∧ Gen.fam5 5012 = true := by decide
example : objPred 5 (some (be 4 5012)) = some true ∧ objPred 5 none = none := by decide

end BV.C17
